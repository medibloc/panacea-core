import Panacea.Model.Validate
import Panacea.Model.Keystore
import Panacea.Lemmas.Pnft
import Panacea.Lemmas.Aol
import Panacea.Lemmas.Did
import Panacea.Lemmas.Paginate
import Panacea.Properties.C07
import Panacea.Properties.C16
/-!
# C17 — Totality: no message, query or key file makes the code panic

Only the modelled panic sources are covered; others are visible only to the correspondence streams (every entry point
under `recover()` on malformed inputs).
About the code after the repairs of F2 (nil document), F3 (AOL queries with over-long topic names) and F4, F22, F29 (key
files: `dklen` both ways, iteration count, IV length).  **Known finding F14** (SDK code): `query.Paginate` with
`reverse = true` and a `key` that is the last key of the listing panics in `getIterator`, reachable through `Topics`,
`Writers` and `Denoms`; `paginate_panics_iff` is the exact boundary.
C07 is imported for the totality check, which audits `C07.burn_endblock_send_never_fails` through this module.
-/
namespace Panacea.C17
open Panacea CompKey Validate
open Panacea.Outcome (isPanic_bind isPanic_ite isPanic_bind_iff isPanic_ite_iff isPanic_ok isPanic_err)

/-- `np_…` ("never panics"), one per field validator: together the simp set of `validateBasic_never_panics`. -/
theorem np_topic (t : Bytes) : (validateTopicName t).isPanic = false :=
  isPanic_ite (fun _ => rfl) fun _ => isPanic_ite (fun _ => rfl) fun _ => rfl
theorem np_moniker (t : Bytes) : (validateMoniker t).isPanic = false :=
  isPanic_ite (fun _ => rfl) fun _ => isPanic_ite (fun _ => rfl) fun _ => rfl
theorem np_desc (t : Bytes) : (validateDescription t).isPanic = false := isPanic_ite (fun _ => rfl) fun _ => rfl
theorem np_rkey (t : Bytes) : (validateRecordKey t).isPanic = false := isPanic_ite (fun _ => rfl) fun _ => rfl
theorem np_rval (t : Bytes) : (validateRecordValue t).isPanic = false := isPanic_ite (fun _ => rfl) fun _ => rfl
theorem np_addr (dec : Bytes → Option Bytes) (a : Bytes) : (validAddr dec a).isPanic = false :=
  isPanic_ite (fun _ => rfl) fun _ => rfl
theorem np_nonEmpty (b : Bytes) (w : String) : (nonEmpty b w).isPanic = false := isPanic_ite (fun _ => rfl) fun _ => rfl
theorem np_noNul (b : Bytes) : (noNul b).isPanic = false := isPanic_ite (fun _ => rfl) fun _ => rfl
theorem np_pnftAddr (dec : Bytes → Option Bytes) (a : Bytes) : (pnftAddr dec a).isPanic = false :=
  isPanic_ite (fun _ => rfl) fun _ => rfl

/-- Stateless validation of every AOL and PNFT message returns a result or an error, for every field value. -/
theorem validateBasic_never_panics (dec : Bytes → Option Bytes) :
    (∀ m : Aol.Msg, (aolValidateBasic dec m).isPanic = false) ∧
    (∀ m : PnftMsg, (pnftValidateBasic dec m).isPanic = false) := by
  constructor <;> intro m <;> cases m
  all_goals simp only [aolValidateBasic, pnftValidateBasic, isPanic_bind_iff, isPanic_ite_iff, isPanic_ok, np_topic,
    np_moniker, np_desc, np_rkey, np_rval, np_addr, np_nonEmpty, np_noNul, np_pnftAddr, implies_true, and_self]

/-- Stateless validation of every DID message returns a result or an error, an absent document included. -/
theorem did_validateBasic_never_panics (dec : Bytes → Option Bytes) (m : Did.Msg) :
    (Did.validateBasic dec m).isPanic = false := by
  cases m with
  | create _ doc | update _ doc =>
    cases doc <;> simp only [Did.validateBasic, isPanic_ite_iff, isPanic_ok, isPanic_err, implies_true, and_self]
  | deactivate => simp only [Did.validateBasic, isPanic_ite_iff, isPanic_ok, isPanic_err, implies_true, and_self]

theorem signer_np {dec : Bytes → Option Bytes} {a : Bytes} {k : Bytes → List Bytes} (h : C16.DocAddr dec a) :
    (match dec a with | some x => Outcome.ok (k x) | none => .panic "GetSigners").isPanic = false := by
  obtain ⟨b, hb⟩ := h
  rw [hb]
  rfl

/-- After a successful validation, signer extraction does not panic (for all 14 messages). -/
theorem signers_after_validation_never_panic (dec : Bytes → Option Bytes) :
    (∀ m : Aol.Msg, aolValidateBasic dec m = .ok () → (aolSigners dec m).isPanic = false) ∧
    (∀ m : PnftMsg, pnftValidateBasic dec m = .ok () → (pnftSigners dec m).isPanic = false) ∧
    (∀ m : Did.Msg, Did.validateBasic dec m = .ok () → (didSigners dec m).isPanic = false) := by
  -- an accepted message is a documented one (C16), whose signer address decodes
  refine ⟨fun m h => ?_, fun m h => ?_, fun m h => ?_⟩
  · have hd := (C16.aol_accept_iff_documented dec m).1 h
    cases m with
    | createTopic | addWriter | deleteWriter => exact signer_np hd.actor
    | addRecord t k v w o f =>
      obtain ⟨b, hb⟩ := hd.actor
      simp only [aolSigners, C16.aolActor] at hb ⊢
      rw [hb]
      exact isPanic_ite (fun hne => signer_np (hd.feePayer.resolve_left hne)) fun _ => rfl
  · have hd := C16.pnft_documented_of_accept h
    cases m <;> exact signer_np hd.actor
  · cases m <;> exact signer_np (C16.did_accept_from h)

/-- Whatever the state holds: validation has seen to the message's document, the `isEmpty` test to the stored one. -/
theorem did_deliver_total (dec : Bytes → Option Bytes) (cr : Did.Crypto) (s : Did.State) (m : Did.Msg) :
    (Did.deliver dec cr s m).isPanic = false :=
  (Did.deliver_holds dec cr s m).isPanic_eq_false (Bool.eq_false_iff.mp (did_validateBasic_never_panics dec m))

/-- The DID pipeline (validation, then handler) never panics, in any state, for any message. -/
theorem did_deliver_never_panics (dec : Bytes → Option Bytes) (cr : Did.Crypto) (s : Did.State)
    (hw : ∀ did d, s.get did = some d → d.doc ≠ none) (m : Did.Msg) :
    (Did.deliver dec cr s m).isPanic = false :=
  did_deliver_total dec cr s m

/-- The PNFT message server never panics (it re-validates and has no partial operation). -/
theorem pnft_handle_never_panics (c : AddrCodec) (now : Int) (s : Pnft.State) (m : PnftMsg) :
    (Pnft.handle c now s m).isPanic = false :=
  (Pnft.handle_holds c now s m).isPanic_eq_false (Bool.eq_false_iff.mp ((validateBasic_never_panics c.dec).2 m))

/-- Key-store files: `decryptKey` returns a key or an error for every file and password. -/
theorem decryptKey_never_panics (k : Keystore.KeyFile) : (Keystore.decryptKey k).isPanic = false := by
  unfold Keystore.decryptKey Keystore.maxDKLen Keystore.allocLimit Keystore.maxIter Keystore.iterLimit
  repeat refine isPanic_ite (fun _ => rfl) fun _ => ?_
  -- `pbkdf2.Key` is reached with `32 ≤ dklen ≤ 1024` and `c ≤ 10⁷`
  rw [if_neg (by omega), if_neg (by omega)]
  exact isPanic_ite (fun _ => rfl) fun _ => rfl

/-- F4: `decryptKeyOld` panics on a negative or short `dklen` and on an IV of the wrong size -/
def f4Witness : Keystore.KeyFile :=
  { version := 3
    cipher := Keystore.cipherAlgorithm
    kdf := Keystore.kdfName
    prf := Keystore.prfName
    macHexOK := true
    ivHexOK := true
    ctHexOK := true
    saltHexOK := true
    c := 1
    dklen := 16
    ivLen := 16
    macOK := true }

example : (Keystore.decryptKeyOld f4Witness).isPanic = true := by decide
example : (Keystore.decryptKey f4Witness).isPanic = false := by decide

/-- F22: an oversized `dklen` aborts the process, whatever the password: it is allocated before the MAC is checked -/
example : (Keystore.decryptKeyF4 { f4Witness with dklen := 2 ^ 62 }).isPanic = true := by decide
example : (Keystore.decryptKey { f4Witness with dklen := 2 ^ 62 }).isPanic = false := by decide

/-- F29: an oversized iteration count keeps `Load` from returning: the key is derived before the MAC is checked -/
example : (Keystore.decryptKeyF22 { f4Witness with dklen := 32, c := 2 ^ 62 }).isPanic = true := by decide
example : (Keystore.decryptKey { f4Witness with dklen := 32, c := 2 ^ 62 }).isPanic = false := by decide

/-- AOL single-item queries never panic (the key is encoded with `Encode`, F3). -/
theorem aol_item_queries_never_panic (c : AddrCodec) (s : Aol.State) (o t w : Bytes) (n : Nat) :
    (Aol.queryRecord c s o t n).isPanic = false ∧ (Aol.queryTopic c s o t).isPanic = false ∧
    (Aol.queryWriter c s o t w).isPanic = false := by
  refine ⟨?_, ?_, ?_⟩
  · refine isPanic_bind (Aol.decAddr_isPanic ..) fun _ _ => isPanic_bind (Aol.encodeQ_isPanic _) fun _ _ => ?_
    split <;> rfl
  · refine isPanic_bind (Aol.decAddr_isPanic ..) fun _ _ => isPanic_bind (Aol.encodeQ_isPanic _) fun _ _ => ?_
    split <;> rfl
  · refine isPanic_bind (Aol.decAddr_isPanic ..) fun _ _ => isPanic_bind (Aol.decAddr_isPanic ..) fun _ _ =>
      isPanic_bind (Aol.encodeQ_isPanic _) fun _ _ => ?_
    split <;> rfl

theorem iterFrom_isPanic {V} (items : List (Bytes × V)) (start : Bytes) (reverse : Bool) :
    (Paginate.iterFrom items start reverse).isPanic = true ↔
      reverse = true ∧ start ≠ [] ∧ ∃ e, items.filter (fun e => !Bytes.lt e.1 start) = [e] := by
  unfold Paginate.iterFrom
  cases reverse with
  | false => simp [Outcome.isPanic]
  | true =>
    by_cases hs : start = []
    · simp [hs, Outcome.isPanic]
    · simp only [Bool.not_true, Bool.false_eq_true, if_false, hs, true_and, ne_eq, not_false_eq_true]
      split <;> rename_i heq <;> simp [heq, Outcome.isPanic]

/-- The exact boundary of F14: reverse key mode, and the key is the last key of the listing or lies between the last
two. -/
theorem paginate_panics_iff {V} (items : List (Bytes × V)) (req : Paginate.PageRequest) :
    (Paginate.paginate items req).isPanic = true ↔ req.reverse = true ∧ req.key ≠ [] ∧ req.offset = 0 ∧
      ∃ e, items.filter (fun e => !Bytes.lt e.1 req.key) = [e] := by
  by_cases h2 : req.key = []
  · -- offset mode iterates from the start, which never panics
    rw [Paginate.paginate_of_nokey items h2, Paginate.pageByOffset_eq]
    exact ⟨fun h => (by cases h), fun h => (h.2.1 h2).elim⟩
  · rw [Paginate.paginate_of_key items h2]
    by_cases h0 : req.offset > 0
    · rw [if_pos h0]
      exact ⟨fun h => (by cases h), fun ⟨_, _, h, _⟩ => by omega⟩
    · have hk : ∀ l, (Paginate.pageByKey items req.key req.reverse l).isPanic =
          (Paginate.iterFrom items req.key req.reverse).isPanic := by
        intro l
        rw [Paginate.pageByKey_eq]
        cases Paginate.iterFrom items req.key req.reverse <;> rfl
      rw [if_neg h0, hk, iterFrom_isPanic]
      exact ⟨fun ⟨a, b, c⟩ => ⟨a, b, by omega, c⟩, fun ⟨a, b, _, c⟩ => ⟨a, b, c⟩⟩

/-- `query.Paginate` can panic only in reverse key mode (F14). -/
theorem paginate_panics_only_in_reverse_key_mode {V} (items : List (Bytes × V)) (req : Paginate.PageRequest)
    (h : (Paginate.paginate items req).isPanic = true) : req.reverse = true ∧ req.key ≠ [] := by
  have ⟨hr, hk, _⟩ := (paginate_panics_iff items req).1 h
  exact ⟨hr, hk⟩

/-- the F14 witness in the model -/
example : (Paginate.paginate [([1], 0), ([2], 0), ([3], 0)] { key := [3], limit := 1, reverse := true }).isPanic = true := by
  decide

/-- The AOL message server never panics on a message that passed stateless validation (every key it
builds has components of at most 255 bytes: decoded addresses, a validated topic name, an 8-byte offset). -/
theorem aol_handle_never_panics_after_validation (c : AddrCodec) (hc : ∀ s a, c.dec s = some a → addrOk a = true)
    (now : Int) (st : Aol.State) (m : Aol.Msg) (hv : aolValidateBasic c.dec m = .ok ()) :
    (Aol.handle c now st m).isPanic = false := by
  have hd := (C16.aol_accept_iff_documented c.dec m).1 hv
  refine Aol.handle_isPanic_false hc ?_
  cases m <;> exact Nat.le_trans hd.1.2.1 (by decide)

end Panacea.C17
