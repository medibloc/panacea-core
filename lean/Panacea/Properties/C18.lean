import Panacea.Lemmas.CompKeyString
/-!
# C18 — Composite keys: lossless, collision-free and prefix-exact

All statements are for tuples of *any* number of components of *any* size; the property's
"0–4 components of 0–255 bytes" are instances.
-/
namespace Panacea.C18
open Panacea CompKey

/-- Encoding then decoding returns the same tuple. -/
theorem decode_encode (vs : List Bytes) (bz : Bytes) (h : encode vs = some bz) : decode bz = some vs :=
  decode_encode' vs bz h

/-- The decoder accepts only canonical encodings. -/
theorem encode_decode (bz : Bytes) (vs : List Bytes) (h : decode bz = some vs) : encode vs = some bz :=
  encode_decode' bz vs h

/-- Two different tuples never encode to the same bytes. -/
theorem encode_injective (a b : List Bytes) (bz : Bytes)
    (ha : encode a = some bz) (hb : encode b = some bz) : a = b :=
  encode_inj ha hb

/-- Prefix-exactness: one encoding is a byte-prefix of another exactly when the tuple is a
component-prefix of the other tuple. -/
theorem prefix_exact (a b : List Bytes) (p q : Bytes) (ha : encode a = some p) (hb : encode b = some q) :
    p <+: q ↔ a <+: b :=
  ⟨prefix_of_encode_prefix ha hb, encode_prefix_of_prefix ha hb⟩

/-- Prefix-exactness in the form the listings use (`PartialEncode` of the first `k` components of `a`). -/
theorem partial_prefix_exact (a b : List Bytes) (k : Nat) (p q : Bytes)
    (ha : partialEncode a k = some p) (hb : encode b = some q) :
    p <+: q ↔ b.take k = a.take k := by
  unfold partialEncode at ha
  split at ha
  · cases ha
  · rename_i hk
    rw [prefix_exact _ _ _ _ ha hb, List.prefix_iff_eq_take]
    have : (a.take k).length = k := by
      simp
      omega
    rw [this]
    exact ⟨fun h => h.symm, fun h => h.symm⟩

/-- Components longer than 255 bytes are rejected, and nothing else is (so nothing is ever truncated to fit). -/
theorem encode_none_iff_long (vs : List Bytes) : encode vs = none ↔ ∃ v ∈ vs, v.length > 255 := by
  rw [← Option.not_isSome_iff_eq_none, encode_isSome_iff]
  simp

/-- One length byte per component plus the component: no byte of any component is dropped. -/
theorem encode_length_exact (vs : List Bytes) (bz : Bytes) (h : encode vs = some bz) :
    bz.length = (vs.map fun v => v.length + 1).sum := by
  rw [(encode_eq_some.mp h).2, List.length_flatMap]
  rfl

/-- Typed decode accepts only canonical encodings of a key of that kind (nothing is truncated or padded). -/
theorem decodeTyped_canonical (k : Kind) (bz : Bytes) (comps : List Bytes)
    (h : decodeTyped k bz = .ok comps) : encode comps = some bz :=
  (decodeTyped_eq_ok.mp h).1

/-- Typed decode never aborts: malformed input is an error. -/
theorem decodeTyped_total (k : Kind) (bz : Bytes) : (decodeTyped k bz).isPanic = false := by
  unfold decodeTyped
  cases decode bz with
  | none => rfl
  | some vs =>
    show (fromByteSlices k vs).isPanic = false
    rcases fromByteSlices_cases k vs with h' | ⟨c, h'⟩ <;> rw [h'] <;> rfl

/-- The components the message validators admit for a key of each kind: addresses are 1–255 bytes,
topic names contain no `/` (the validator's charset `[A-Za-z0-9._-]` excludes it; see C16), offsets
are `uint64`. -/
def Admitted : Kind → List Bytes → Prop
  | .owner, [o] => addrOk o = true
  | .topic, [o, t] => addrOk o = true ∧ slash ∉ t
  | .writer, [o, t, w] => addrOk o = true ∧ slash ∉ t ∧ addrOk w = true
  | .record, [o, t, n] => addrOk o = true ∧ slash ∉ t ∧ ∃ off, off < 2 ^ 64 ∧ n = be64 off
  | _, _ => False

theorem decodeTyped_of_admitted {k : Kind} {comps : List Bytes} {key : Bytes} (he : encode comps = some key)
    (ha : Admitted k comps) : decodeTyped k key = .ok comps := by
  refine decodeTyped_eq_ok.mpr ⟨he, ?_⟩
  unfold Admitted at ha
  split at ha
  · exact if_pos ha
  · exact if_pos ha.1
  · simp only [fromByteSlices, ha.1, ha.2.2, Bool.not_true, Bool.false_eq_true, if_false]
  · obtain ⟨ho, _, off, hoff, rfl⟩ := ha
    simp only [fromByteSlices, ho, offsetOfBytes_be64 hoff, Bool.not_true, Bool.false_eq_true, if_false]
  · exact ha.elim

/-- The string form used in genesis files round-trips for every admitted key, for any address codec that satisfies
the three laws of `AddrCodec.Lawful`. -/
theorem string_roundtrip_admitted (c : AddrCodec) (hc : c.Lawful) (k : Kind) (comps : List Bytes)
    (h : Admitted k comps) : decodeFromString c k (encodeToString c k comps) = some comps := by
  unfold decodeFromString encodeToString
  have hns := hc.no_slash
  unfold Admitted at h
  split at h
  · rw [strings, splitSlash_joinSlash (List.cons_ne_nil _ _) (by simp [hns])]
    simp only [fromStrings, hc.dec_enc _ h, Option.map_some]
  · obtain ⟨ho, ht⟩ := h
    rw [strings, splitSlash_joinSlash (List.cons_ne_nil _ _) (by simp [hns, ht])]
    simp only [fromStrings, hc.dec_enc _ ho, Option.map_some]
  · obtain ⟨ho, ht, hw⟩ := h
    rw [strings, splitSlash_joinSlash (List.cons_ne_nil _ _) (by simp [hns, ht])]
    simp only [fromStrings, hc.dec_enc _ ho, hc.dec_enc _ hw]
  · obtain ⟨ho, ht, off, hoff, rfl⟩ := h
    simp only [strings, fromBe64_be64 off hoff]
    rw [splitSlash_joinSlash (List.cons_ne_nil _ _) (by simp [hns, ht, formatUint_noslash])]
    simp only [fromStrings, hc.dec_enc _ ho, parseUint64_formatUint off hoff]
  · exact h.elim

/-! ## Non-vacuity: concrete instances of the hypotheses on keys -/

example : encode [[1, 2], [], [3]] = some [2, 1, 2, 0, 1, 3] := rfl
example : decode [2, 1, 2, 0, 1, 3] = some [[1, 2], [], [3]] := rfl
example : decode [2, 1] = none := rfl
example : partialEncode [[1, 2], [], [3]] 2 = some [2, 1, 2, 0] := rfl
/-- a component containing another component's length byte does not confuse prefixes -/
example : encode [[1], [7]] = some [1, 1, 1, 7] ∧ encode [[1, 1, 7]] = some [3, 1, 1, 7] := ⟨rfl, rfl⟩
example : Admitted .record [[9], [0x74], be64 5] := ⟨by decide, by decide, 5, by decide, rfl⟩
example : decodeTyped .record [1, 9, 1, 0x74, 8, 0, 0, 0, 0, 0, 0, 0, 5] = .ok [[9], [0x74], be64 5] := rfl
/-- offset components that are not exactly eight bytes are errors (never a panic, never truncated) -/
example : decodeTyped .record [1, 9, 1, 0x74, 3, 0, 0, 5] = .err "offset-len" := rfl
example : decodeTyped .record [1, 9, 1, 0x74, 9, 0, 0, 0, 0, 0, 0, 0, 5, 6] = .err "offset-len" := rfl
example : decodeTyped .record [1, 9, 1, 0x74, 0] = .err "offset-len" := rfl

end Panacea.C18
