import Panacea.Lemmas.DidHist
/-!
# C04 — DID sequence is strictly monotonic; an accepted proof is never accepted again

`WF s₀` (entries carry a document pointer and a `uint64` sequence) holds of the empty registry (`wf_empty`) and is
preserved by every message (`wf_reachable`); it is the hypothesis that matters.  The bounds `B + history.length < 2^64`
and `seq + 1 < 2^64` that several statements carry are not used: the handlers refuse at the end of the sequence space
(F23).  The replay of an Update comes as a hypothesis-free *reduction* (the very same signature verifies, under a
current authentication key, over different sign bytes) and as its corollary under `SigBinds` (a signature verifies for
at most one message); replays of Deactivate and Create are rejected unconditionally.
-/
namespace Panacea.C04
open Panacea Did

theorem wf_empty : WF ([] : State) :=
  ⟨fun _ _ h => (by cases h), fun _ _ h => (by cases h), fun _ _ _ h => (by cases h)⟩

/-- `WF`, the hypothesis of the C04 and C11 statements, is kept by every message; `hb` and `hB` are idle. -/
theorem wf_reachable (da : Bytes → Option Bytes) (cr : Crypto) (s : State) (B : Nat) (ms : List Msg)
    (hw : WF s) (hb : ∀ did d, s.get did = some d → d.seq ≤ B) (hB : B + ms.length < 2 ^ 64) :
    WF (run da cr s ms) := wf_run ms hw

/-- Creation pins the sequence to 0. -/
theorem seq_create_zero (da : Bytes → Option Bytes) (cr : Crypto) (s s' : State) (did : Bytes) (doc : Option Doc)
    (db vmID sig fr : Bytes) (h : deliver da cr s (.create did doc db vmID sig fr) = .ok s') :
    seqOf s' did = 0 := by
  cases accepted h
  exact seqOf_set_eq _ _ _

/-- Every accepted update or deactivation advances the sequence by exactly one, for every sequence a `uint64` can
hold (F23). -/
theorem seq_advances_total (da : Bytes → Option Bytes) (cr : Crypto) (s s' : State) (did : Bytes) (doc : Option Doc)
    (db vmID sig fr : Bytes) (hty : seqOf s did < 2 ^ 64) :
    (deliver da cr s (.update did doc db vmID sig fr) = .ok s' → seqOf s' did = seqOf s did + 1) ∧
    (deliver da cr s (.deactivate did vmID sig fr) = .ok s' → seqOf s' did = seqOf s did + 1) := by
  constructor <;> intro h
  · cases accepted h with
    | update _ _ _ hp => exact (seqOf_set_eq _ _ _).trans (nextSeq_succ hty hp.noWrap)
  · cases accepted h with
    | deactivate _ hp => exact (seqOf_set_eq _ _ _).trans (nextSeq_succ hty hp.noWrap)

/-- `seq_advances_total` under the stronger hypothesis `seq + 1 < 2^64`. -/
theorem seq_advances (da : Bytes → Option Bytes) (cr : Crypto) (s s' : State) (did : Bytes) (doc : Option Doc)
    (db vmID sig fr : Bytes) (hov : seqOf s did + 1 < 2 ^ 64) :
    (deliver da cr s (.update did doc db vmID sig fr) = .ok s' → seqOf s' did = seqOf s did + 1) ∧
    (deliver da cr s (.deactivate did vmID sig fr) = .ok s' → seqOf s' did = seqOf s did + 1) :=
  seq_advances_total da cr s s' did doc db vmID sig fr (Nat.lt_of_succ_lt hov)

/-- After any message the sequence of any DID is what it was, or one more because that very message was
accepted. -/
theorem seq_changes_only_by_acceptance (da : Bytes → Option Bytes) (cr : Crypto) (s : State) (m : Msg)
    (did : Bytes) (B : Nat) (hw : WF s) (hb : ∀ did d, s.get did = some d → d.seq ≤ B) (hB : B + 1 < 2 ^ 64) :
    seqOf (step da cr s m) did = seqOf s did ∨
    (seqOf (step da cr s m) did = seqOf s did + 1 ∧ deliver da cr s m = .ok (step da cr s m)) :=
  seq_step hw

/-- The sequence never decreases along any history. -/
theorem seq_monotone (da : Bytes → Option Bytes) (cr : Crypto) (s : State) (ms : List Msg) (did : Bytes) (B : Nat)
    (hw : WF s) (hb : ∀ did d, s.get did = some d → d.seq ≤ B) (hB : B + ms.length < 2 ^ 64) :
    seqOf s did ≤ seqOf (run da cr s ms) did :=
  seq_mono_run ms did hw

/-- The sequence the read operation returns is the one the next proof is verified against. -/
theorem read_seq_is_next (da : Bytes → Option Bytes) (cr : Crypto) (s s' : State) (did : Bytes) (cur : DocWithSeq)
    (doc : Option Doc) (db vmID sig fr : Bytes) (hq : queryDID s did = .ok cur)
    (h : deliver da cr s (.update did doc db vmID sig fr) = .ok s') :
    ∃ stored vm, cur.doc = some stored ∧ Proven cr db cur.seq stored vmID sig vm := by
  obtain ⟨rfl, _⟩ := (queryDID_holds ..).of_eq_ok hq
  cases accepted h with
  | update _ _ _ hp =>
    obtain ⟨stored, vm, hst, _, hp⟩ := hp
    exact ⟨stored, vm, hst, hp⟩

/-- A signature verifies for at most one message (whatever the keys). -/
def SigBinds (cr : Crypto) : Prop :=
  ∀ pk pk' m m' sig, cr.verify pk m sig = true → cr.verify pk' m' sig = true → m = m'

/-- **Replay of an update — reduction.**  If an update accepted at state `s` is accepted again at a later
state `s₂` (by any relayer `fr'`), then its signature also verifies over sign bytes that differ from the
ones it was made for. -/
theorem update_replay_reduction (da : Bytes → Option Bytes) (cr : Crypto) (s s1 s2 s3 : State)
    (did : Bytes) (doc : Option Doc) (db vmID sig fr fr' : Bytes) (ms : List Msg) (B : Nat)
    (hw : WF s) (hb : ∀ did d, s.get did = some d → d.seq ≤ B) (hB : B + 1 + ms.length < 2 ^ 64)
    (h1 : deliver da cr s (.update did doc db vmID sig fr) = .ok s1)
    (h2 : s2 = run da cr s1 ms)
    (h3 : deliver da cr s2 (.update did doc db vmID sig fr') = .ok s3) :
    ∃ pk pk' m m', cr.verify pk m sig = true ∧ cr.verify pk' m' sig = true ∧ m ≠ m' := by
  have hw1 : WF s1 := step_of_ok h1 ▸ wf_step hw
  have hadv := (seq_advances_total da cr s s1 did doc db vmID sig fr (hw.seqOf_lt did)).1 h1
  have hmono : seqOf s1 did ≤ seqOf s2 did := h2 ▸ seq_mono_run ms did hw1
  cases accepted h1 with
  | update _ _ _ hp1 =>
    cases accepted h3 with
    | update _ _ _ hp3 => exact hp1.two_messages hp3 fun _ he => by omega

/-- **Replay of an update is rejected** (under `SigBinds`), at every later point of every history and
through every relayer. -/
theorem update_replay_rejected (da : Bytes → Option Bytes) (cr : Crypto) (hsig : SigBinds cr) (s s1 : State)
    (did : Bytes) (doc : Option Doc) (db vmID sig fr fr' : Bytes) (ms : List Msg) (B : Nat)
    (hw : WF s) (hb : ∀ did d, s.get did = some d → d.seq ≤ B) (hB : B + 1 + ms.length < 2 ^ 64)
    (h1 : deliver da cr s (.update did doc db vmID sig fr) = .ok s1) :
    (deliver da cr (run da cr s1 ms) (.update did doc db vmID sig fr')).isOk = false := by
  refine Outcome.isOk_eq_false fun s3 h3 => ?_
  obtain ⟨pk, pk', m, m', v1, v2, hne⟩ :=
    update_replay_reduction da cr s s1 _ s3 did doc db vmID sig fr fr' ms B hw hb hB h1 rfl h3
  exact hne (hsig pk pk' m m' sig v1 v2)

/-- **Replay of a deactivation is rejected** — unconditionally: the DID is a tombstone afterwards, and
stays one. -/
theorem deactivate_replay_rejected (da : Bytes → Option Bytes) (cr : Crypto) (s s1 : State)
    (did vmID sig fr fr' : Bytes) (ms : List Msg) (hov : seqOf s did + 1 < 2 ^ 64)
    (h1 : deliver da cr s (.deactivate did vmID sig fr) = .ok s1) :
    (deliver da cr (run da cr s1 ms) (.deactivate did vmID sig fr')).isOk = false := by
  have hd := deactivate_dead h1
  exact rejected fun _ => Dead.not_accepted (hd.of_get_eq (dead_run ms hd))

/-- **Replay of a creation is rejected** — unconditionally: the identifier is occupied (by a document or
a tombstone) from then on. -/
theorem create_replay_rejected (da : Bytes → Option Bytes) (cr : Crypto) (s s1 : State)
    (did : Bytes) (doc : Option Doc) (db vmID sig fr fr' : Bytes) (ms : List Msg) (B : Nat)
    (hw : WF s) (hb : ∀ did d, s.get did = some d → d.seq ≤ B) (hB : B + 1 + ms.length < 2 ^ 64)
    (h1 : deliver da cr s (.create did doc db vmID sig fr) = .ok s1) :
    (deliver da cr (run da cr s1 ms) (.create did doc db vmID sig fr')).isOk = false :=
  rejected fun _ => not_accepted_create (nonempty_run ms (create_nonempty h1))

example : signBytes [1, 2] 0 = [0x0a, 2, 1, 2] := by decide
example : signBytes [1, 2] 300 = [0x0a, 2, 1, 2, 0x10, 0xac, 0x02] := by decide
example : signBytes [] 0 = [] := by decide

end Panacea.C04
