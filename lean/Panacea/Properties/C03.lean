import Panacea.Lemmas.Did
/-!
# C03 — DID control: only a holder of a current authentication key changes a DID

`Proven cr data seq stored vmID sig vm`: `vmID` resolves, *through the `authentication` list of `stored` only*, to `vm`, a
secp256k1 method with a 33-byte key, and `sig` verifies under it over `DataWithSeq{data, seq}`; verification is the
parameter `cr`.  `data` is the protobuf encoding of the signed document (`Document.Marshal()`, framed by
`mustGetSignBytesWithSeq`, x/did/types/auth.go), carried by the message as `docBytes`; that equal bytes mean equal
documents is a hypothesis where it is needed (`C11.proof_bound_to_did`).  **Known finding F18** (`mon.c03.utf8` in the
`did` stream): on the real chain an update whose document differs from the signed one only in a byte that is not valid
UTF-8 inside a free-text string is accepted; the model, which carries the signed bytes in the message, does not exhibit it.
-/
namespace Panacea.C03
open Panacea Did

/-- A document is replaced only with a proof by a current authentication key over the new content and
the current sequence. -/
theorem update_requires_current_auth_proof (da : Bytes → Option Bytes) (cr : Crypto) (s s' : State)
    (did : Bytes) (doc : Option Doc) (db vmID sig fr : Bytes)
    (h : deliver da cr s (.update did doc db vmID sig fr) = .ok s') :
    ∃ stored vm, (getDoc s did).doc = some stored ∧ stored.empty = false ∧
      Proven cr db (getDoc s did).seq stored vmID sig vm := by
  cases accepted h with
  | update _ _ _ hp => exact hp

/-- A DID is deactivated only with such a proof over the DID itself and the current sequence. -/
theorem deactivate_requires_current_auth_proof (da : Bytes → Option Bytes) (cr : Crypto) (s s' : State)
    (did vmID sig fr : Bytes) (h : deliver da cr s (.deactivate did vmID sig fr) = .ok s') :
    ∃ stored vm, (getDoc s did).doc = some stored ∧ stored.empty = false ∧
      Proven cr (marshalIdOnly did) (getDoc s did).seq stored vmID sig vm := by
  cases accepted h with
  | deactivate _ hp => exact hp

/-- A DID is created only with a proof by a key listed under authentication *in the submitted document*,
over that document and sequence 0. -/
theorem create_requires_self_auth_proof (da : Bytes → Option Bytes) (cr : Crypto) (s s' : State)
    (did : Bytes) (doc : Option Doc) (db vmID sig fr : Bytes)
    (h : deliver da cr s (.create did doc db vmID sig fr) = .ok s') :
    ∃ d vm, doc = some d ∧ Proven cr db 0 d vmID sig vm := by
  cases accepted h with
  | create _ _ _ _ hp => exact ⟨_, _, rfl, hp⟩

/-- The resolved method is named by the authentication list; a key that appears only under another
relationship, or only as a verification method, is never resolved. -/
theorem proof_key_is_listed_under_authentication (cr : Crypto) (data : Bytes) (seq : Nat) (stored : Doc)
    (vmID sig : Bytes) (vm : VM) (h : Proven cr data seq stored vmID sig vm) :
    (Rel.dedicated vm ∈ stored.auths ∧ vm.id = vmID) ∨
    (Rel.ref vmID ∈ stored.auths ∧ vmByID stored.vms vmID = some vm) :=
  vmFrom_some h.resolved

/-- If no authentication entry carries the given method id, every update and deactivation using that
id is rejected — whatever other relationships or verification methods list the key. -/
theorem not_under_authentication_rejected (da : Bytes → Option Bytes) (cr : Crypto) (s : State)
    (did : Bytes) (doc : Option Doc) (db vmID sig fr : Bytes) (stored : Doc)
    (hst : (getDoc s did).doc = some stored)
    (hno : ∀ r ∈ stored.auths, r ≠ Rel.ref vmID ∧ ∀ vm, r = Rel.dedicated vm → vm.id ≠ vmID) :
    (deliver da cr s (.update did doc db vmID sig fr)).isOk = false ∧
    (deliver da cr s (.deactivate did vmID sig fr)).isOk = false := by
  refine rejected_of_no_liveProof (fun sd ⟨stored', vm, hst', _, hp⟩ => ?_) doc db fr
  cases hst.symm.trans hst'
  rcases vmFrom_some hp.resolved with ⟨hm, hid⟩ | ⟨hm, _⟩
  · exact (hno _ hm).2 vm rfl hid
  · exact (hno _ hm).1 rfl

/-- The paying/signing account confers no rights: the outcome of a DID message does not depend on
`from_address` (as long as it is a well-formed address at all). -/
theorem from_address_irrelevant (da : Bytes → Option Bytes) (cr : Crypto) (s : State)
    (did : Bytes) (doc : Option Doc) (db vmID sig fr fr' : Bytes)
    (h1 : (da fr).isSome = true) (h2 : (da fr').isSome = true) :
    deliver da cr s (.create did doc db vmID sig fr) = deliver da cr s (.create did doc db vmID sig fr') ∧
    deliver da cr s (.update did doc db vmID sig fr) = deliver da cr s (.update did doc db vmID sig fr') ∧
    deliver da cr s (.deactivate did vmID sig fr) = deliver da cr s (.deactivate did vmID sig fr') := by
  -- validation only asks whether the address decodes, and the handlers never look at it
  have e : (da fr).isNone = (da fr').isNone := by
    cases hx : da fr <;> cases hx' : da fr' <;> simp [hx, hx'] at h1 h2 ⊢
  refine ⟨?_, ?_, ?_⟩
  all_goals
    dsimp only [deliver, validateBasic]
    rw [e]
    rfl

/-- Any message that is not accepted leaves every stored document and sequence untouched. -/
theorem rejected_is_noop (da : Bytes → Option Bytes) (cr : Crypto) (s : State) (m : Msg)
    (h : (deliver da cr s m).isOk = false) : step da cr s m = s :=
  step_of_not_ok h

/-- An accepted message touches the entry of its own DID only. -/
theorem other_dids_untouched (da : Bytes → Option Bytes) (cr : Crypto) (s : State) (m : Msg) (did : Bytes)
    (h : did ≠ (match m with | .create d _ _ _ _ _ => d | .update d _ _ _ _ _ => d | .deactivate d _ _ _ => d)) :
    (step da cr s m).get did = s.get did :=
  step_cases (P := fun s' => s'.get did = s.get did) rfl fun _ _ h' => h'.frame h

/-! ## Non-vacuity -/

/-- ideal signatures for the examples: the signature *is* the (key, message) pair -/
def idealCrypto : Crypto := { verify := fun pk m sig => sig = pk ++ m }

example : b58Decode [0x31, 0x31] = [0, 0] := by decide
example : validateVMID [0x64, 0x69, 0x64, 0x3a, 0x78, 0x23, 0x6b, 0x20, 0x31] [0x64, 0x69, 0x64, 0x3a, 0x78] = false := by decide
example : validateVMID [0x64, 0x69, 0x64, 0x3a, 0x78, 0x23, 0x6b, 0x31] [0x64, 0x69, 0x64, 0x3a, 0x78] = true := by decide

end Panacea.C03
