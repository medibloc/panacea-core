import Panacea.Lemmas.DidHist
import Panacea.Model.Genesis
import Panacea.Lemmas.MapExt
/-!
# C05 — A DID is created at most once and deactivation is permanent
-/
namespace Panacea.C05
open Panacea Did

/-- Creating a DID that exists (or is a tombstone) fails and changes nothing. -/
theorem create_existing_fails_noop (da : Bytes → Option Bytes) (cr : Crypto) (s : State) (did : Bytes)
    (doc : Option Doc) (db vmID sig fr : Bytes) (h : (getDoc s did).isEmpty = false) :
    (deliver da cr s (.create did doc db vmID sig fr)).isOk = false ∧
    step da cr s (.create did doc db vmID sig fr) = s := by
  have hrej : (deliver da cr s (.create did doc db vmID sig fr)).isOk = false :=
    rejected fun _ => not_accepted_create h
  exact ⟨hrej, step_of_not_ok hrej⟩

/-- A successful deactivation leaves a tombstone (incremented, hence non-zero, sequence). -/
theorem deactivate_makes_tombstone (da : Bytes → Option Bytes) (cr : Crypto) (s s' : State)
    (did vmID sig fr : Bytes) (hov : seqOf s did + 1 < 2 ^ 64)
    (h : deliver da cr s (.deactivate did vmID sig fr) = .ok s') : Dead s' did :=
  deactivate_dead h

/-- **Permanence.**  Once a DID is a tombstone, after every further history: its entry is bit-for-bit
the same tombstone, the read operation reports "not found (deactivated)", and every create, update and
deactivate for it is rejected — by anyone, with any key, any proof. -/
theorem tombstone_forever (da : Bytes → Option Bytes) (cr : Crypto) (s : State) (did : Bytes) (ms : List Msg)
    (hd : Dead s did) :
    (run da cr s ms).get did = s.get did ∧
    Dead (run da cr s ms) did ∧
    queryDID (run da cr s ms) did = .err "not-found:deactivated" ∧
    (∀ doc db vmID sig fr, (deliver da cr (run da cr s ms) (.create did doc db vmID sig fr)).isOk = false) ∧
    (∀ doc db vmID sig fr, (deliver da cr (run da cr s ms) (.update did doc db vmID sig fr)).isOk = false) ∧
    (∀ vmID sig fr, (deliver da cr (run da cr s ms) (.deactivate did vmID sig fr)).isOk = false) := by
  have hrun := dead_run (da := da) (cr := cr) ms hd
  have hd' := hd.of_get_eq hrun
  exact ⟨hrun, hd', hd'.queryDID, fun _ _ _ _ _ => rejected fun _ => hd'.not_accepted,
    fun _ _ _ _ _ => rejected fun _ => hd'.not_accepted, fun _ _ _ => rejected fun _ => hd'.not_accepted⟩

/-- After the fix for F6 no message can turn a live document into an id-less one: the only way to a
tombstone is `MsgDeactivateDID`.  (An accepted update always stores a non-empty document.) -/
theorem update_never_deactivates (da : Bytes → Option Bytes) (cr : Crypto) (s s' : State) (did : Bytes)
    (doc : Option Doc) (db vmID sig fr : Bytes)
    (h : deliver da cr s (.update did doc db vmID sig fr) = .ok s') : Live s' did := by
  cases accepted h with
  | update hvd _ hid => exact ⟨_, _, Map.get_set_eq, rfl, valid_nonempty_of_id hid hvd⟩

def tomb : State := [([1], { doc := some emptyDoc, seq := 3, docBytes := [] })]
example : Dead tomb [1] := ⟨_, emptyDoc, rfl, rfl, by decide, by decide⟩

/-! Genesis is the one place where a sequence number is an input.  `didGenesisValid` admits every `uint64` and checks
what `WF` asks of an entry, so the theorems about histories apply to a chain started from a validated genesis. -/

theorem genesis_wf (g : List (Bytes × DocWithSeq)) (hv : Genesis.didGenesisValid g = true) :
    WF (Genesis.didImport g) := by
  refine .of_entries fun did d hg => ?_
  -- an imported key reads the last entry under it, which is an entry of the file, which passed the check
  rw [Genesis.didImport, Map.get_foldl_set, Map.get, Option.or_none] at hg
  have := List.all_eq_true.mp hv (did, d) (List.mem_reverse.mp (Map.mem_of_get hg))
  simp only [Bool.and_eq_true, decide_eq_true_eq] at this
  obtain ⟨hs, hd⟩ := this
  cases hdoc : d.doc with
  | none => simp [hdoc] at hd
  | some doc => exact ⟨nofun, hs, fun doc' h1 he => by cases h1; simpa [hdoc, he] using hd⟩

/-- The one place where a sequence is an input: every sequence a validated genesis imports is a `uint64`. -/
theorem genesis_seq_bound (g : List (Bytes × DocWithSeq)) (hv : Genesis.didGenesisValid g = true) (did : Bytes) :
    seqOf (Genesis.didImport g) did < 2 ^ 64 :=
  (genesis_wf g hv).seqOf_lt did

/-- the successor of the largest sequence is the initial one, which stands for "does not exist" -/
example : nextSeq 18446744073709551615 = 0 := by decide

/-! The end of the sequence space (F23): the handlers refuse to produce the wrapped sequence, so an accepted
deactivation writes a sequence other than 0; the bounds in the two `deactivate_makes_tombstone` statements are not used. -/

theorem nextSeq_of_noWrap {n : Nat} (hn : n < 2 ^ 64) (h : nextSeq n ≠ 0) : nextSeq n = n + 1 :=
  nextSeq_succ hn h

/-- **A successful deactivation leaves a tombstone, whatever sequence the document had** (any `uint64`). -/
theorem deactivate_makes_tombstone_total (da : Bytes → Option Bytes) (cr : Crypto) (s s' : State)
    (did vmID sig fr : Bytes) (hty : seqOf s did < 2 ^ 64)
    (h : deliver da cr s (.deactivate did vmID sig fr) = .ok s') : Dead s' did :=
  deactivate_dead h

/-- At the last sequence number updates and deactivations are refused (and, by `C03.rejected_is_noop`,
change nothing): the document stays as it is rather than becoming re-creatable. -/
theorem exhausted_refused (da : Bytes → Option Bytes) (cr : Crypto) (s : State) (did : Bytes)
    (hmax : seqOf s did = 2 ^ 64 - 1) :
    (∀ doc db vmID sig fr, (deliver da cr s (.update did doc db vmID sig fr)).isOk = false) ∧
    (∀ vmID sig fr, (deliver da cr s (.deactivate did vmID sig fr)).isOk = false) := by
  have key : ∀ vmID sig sd, ¬ LiveProof cr s did sd vmID sig := fun _ _ _ hp =>
    hp.noWrap (by rw [hmax]; decide)
  exact ⟨fun doc db vmID sig fr => (rejected_of_no_liveProof (key vmID sig) doc db fr).1,
    fun vmID sig fr => (rejected_of_no_liveProof (key vmID sig) none [] fr).2⟩

-- `hmax` of `exhausted_refused` names a `uint64`
example : (2 : Nat) ^ 64 - 1 < 2 ^ 64 := by decide

/-- **Deactivation on a chain started from a validated genesis leaves a tombstone**, for every entry of that genesis
— including the ones whose sequence the genesis file chose, up to the last `uint64` (where the handlers refuse). -/
theorem genesis_deactivate_makes_tombstone (da : Bytes → Option Bytes) (cr : Crypto)
    (g : List (Bytes × DocWithSeq)) (hv : Genesis.didGenesisValid g = true) (s' : State) (did vmID sig fr : Bytes)
    (h : deliver da cr (Genesis.didImport g) (.deactivate did vmID sig fr) = .ok s') : Dead s' did :=
  deactivate_makes_tombstone_total da cr _ s' did vmID sig fr (genesis_seq_bound g hv did) h

end Panacea.C05
