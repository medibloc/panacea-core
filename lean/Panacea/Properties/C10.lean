import Panacea.Model.App
import Panacea.Generated.Facts
/-!
# C10 — Restart equivalence: committed state survives, uncommitted work leaves no trace  (partial)

In the node model the statements are short: the model has no state outside `committed` / `working`.  That *the real
application* has none is the substance, and it is carried by the tie `Ties/C10` (the keeper structs hold only a codec,
store keys and other keepers; the package-level variables are codecs, key prefixes and error values, nothing written
after `init`), by the `restart` stream (the real application stopped and re-opened after Commit, BeginBlock, every
prefix of a block's transactions and EndBlock, compared with a twin that never stopped), and by
`upgrade_handlers_touch_only_block_state` (no handler calls a keeper, params subspace or module-manager method without
the block context; F24 was such a call).
**Cannot be exhibited by a model:** durability of IAVL / the database, `LoadLatestVersion`.
-/
namespace Panacea.C10
open Panacea.App

/-- Running an upgrade handler changes block state only: its closure calls nothing on the application's long-lived
objects without passing the block context (extracted from `app/upgrades/*`). -/
theorem upgrade_handlers_touch_only_block_state : Panacea.Generated.handlerMemoryCalls = [] := by decide

variable {S B : Type}

/-- A crash discards the block in progress and nothing else. -/
theorem crash_discards_working (exec : S → B → S) (g : S) (n : Node S) :
    (stepNode exec g n .crash).committed = n.committed ∧ (stepNode exec g n .crash).working = none := ⟨rfl, rfl⟩

/-- After a restart the node is exactly at its last committed state, whatever it had executed of the next
block. -/
theorem restart_resumes_committed (exec : S → B → S) (g : S) (n : Node S) (b : B) :
    stepNode exec g (stepNode exec g n (.execBlock b)) .crash = { n with working := none } := rfl

/-- **Crash, then re-deliver = never stopped.**  Executing a block, crashing before the commit, then executing and
committing it and whatever follows gives the same node as without the crash. -/
theorem crash_then_redeliver_eq_uninterrupted (exec : S → B → S) (g : S) (n : Node S) (hw : n.working = none)
    (b : B) (rest : List B) :
    runBlocks exec g (stepNode exec g (stepNode exec g n (.execBlock b)) .crash) (b :: rest) =
    runBlocks exec g n (b :: rest) :=
  -- re-executing the block overwrites the working copy, whatever it was
  rfl

/-- What a node has committed stays a prefix of what it has committed later: nothing rewrites a committed height. -/
theorem committed_prefix (exec : S → B → S) (g : S) (n : Node S) (ops : List (Op B)) :
    n.committed <+: (runNode exec g n ops).committed := by
  induction ops generalizing n with
  | nil => exact List.prefix_refl _
  | cons op rest ih =>
    refine List.IsPrefix.trans ?_ (ih (stepNode exec g n op))
    cases op with
    | commit =>
      unfold stepNode
      cases n.working with
      | none => exact List.prefix_refl _
      | some w => exact List.prefix_append _ _
    | _ => exact List.prefix_refl _

/-- The answer for a committed height is the same before, during and after the execution of any later block (C20's
snapshot clause in the model). -/
theorem query_reads_committed_snapshot (exec : S → B → S) (g : S) (n : Node S) (h : Nat) (ops : List (Op B))
    (hlt : h < n.committed.length) : queryAt (runNode exec g n ops) h = queryAt n h := by
  obtain ⟨l, hl⟩ := committed_prefix exec g n ops
  unfold queryAt
  rw [← hl, List.getElem?_append_left hlt]

/-! non-vacuity: a counter "state", blocks add their payload -/
example : (runBlocks (fun (s : Nat) (b : Nat) => s + b) 0 { committed := [] } [1, 2, 3]).committed = [1, 3, 6] := by decide

end Panacea.C10
