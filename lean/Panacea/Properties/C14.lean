import Panacea.Model.SignBytes
import Panacea.Generated.Facts
/-!
# C14 — A signature authorizes exactly one message: sign bytes are injective

**direct / direct-aux**: the sign document contains the body bytes, of which the messages are a function
(`direct_injective`: congruence).  **Legacy amino-JSON**: AOL (after the repair of F1: the codec registers the type
names): the canonical document determines the message; PNFT: the messages implement no `Route`/`Type`, so they
cannot be signed in this mode at all; DID, **known finding F1-DID**: the codec registers no names and `MsgCreateDID` /
`MsgUpdateDID` have identical fields, so their sign bytes coincide (`mon.c14.pair` on the real `SignModeHandler`).
**Known finding F17**: the *rendering* as JSON bytes is injective only on valid UTF-8 strings (amino-JSON writes U+FFFD
for every other byte), which the validators do not enforce (`mon.c14.pair.utf8`).
Trusted: distinct documents with valid UTF-8 strings render to distinct bytes; decoding is a function of the body bytes.
-/
namespace Panacea.C14
open Panacea SignBytes

/-- direct modes: `msgsOf` is the chain's decoder of the body bytes -/
theorem direct_injective {Body Msgs Rest : Type} (msgsOf : Body → Msgs) (b1 b2 : Body) (r1 r2 : Rest)
    (h : (b1, r1) = (b2, r2)) : msgsOf b1 = msgsOf b2 := by
  cases h
  rfl

theorem fieldsOf_eq_filter : ∀ l : List (Bytes × Bytes), fieldsOf l = l.filter (fun e => e.2 ≠ [])
  | [] => rfl
  | (n, v) :: r => by
    rw [fieldsOf, fieldsOf_eq_filter r, field, List.filter_cons]
    by_cases hv : v = [] <;> simp [hv]

theorem key_of_mem_fieldsOf {l : List (Bytes × Bytes)} {e : Bytes × Bytes} (h : e ∈ fieldsOf l) : e.1 ∈ l.map (·.1) := by
  rw [fieldsOf_eq_filter] at h
  exact List.mem_map_of_mem (List.mem_filter.1 h).1

theorem fieldsOf_inj : ∀ {l l' : List (Bytes × Bytes)}, fieldsOf l = fieldsOf l' → l.map (·.1) = l'.map (·.1) →
    (l.map (·.1)).Nodup → l = l'
  | [], [], _, _, _ => rfl
  | [], _ :: _, _, hn, _ | _ :: _, [], _, hn, _ => by cases hn
  | (n, a) :: l, (n', b) :: l', h, hn, hnd => by
    simp only [List.map_cons, List.cons.injEq] at hn
    obtain ⟨rfl, hn⟩ := hn
    obtain ⟨hnot, hnd⟩ := List.nodup_cons.mp hnd
    -- a field present on one side only would have to come from the other side's tail, which does not have its name
    rw [fieldsOf, fieldsOf, field, field] at h
    by_cases ha : a = [] <;> by_cases hb : b = []
    all_goals simp only [ha, hb, if_true, if_false, List.nil_append, List.singleton_append] at h
    · rw [ha, hb, fieldsOf_inj h hn hnd]
    · exact absurd (key_of_mem_fieldsOf (e := (n, b)) (h ▸ List.mem_cons_self)) hnot
    · exact absurd (key_of_mem_fieldsOf (e := (n, a)) (h ▸ List.mem_cons_self)) (hn ▸ hnot)
    · obtain ⟨e, ht⟩ := List.cons.inj h
      cases e
      rw [fieldsOf_inj ht hn hnd]

/-- **The JSON object of a struct determines the struct**: with pairwise distinct field names, two value
vectors that give the same `omitempty` object are equal (an omitted field can only be an empty one). -/
theorem fieldsOf_injective : ∀ (ns : List Bytes) (as bs : List Bytes), ns.Nodup →
    as.length = ns.length → bs.length = ns.length →
    fieldsOf (ns.zip as) = fieldsOf (ns.zip bs) → as = bs := by
  intro ns as bs hnd ha hb h
  have hfst : ∀ xs : List Bytes, xs.length = ns.length → (ns.zip xs).map (·.1) = ns :=
    fun xs hx => List.map_fst_zip (by omega)
  have := fieldsOf_inj h ((hfst as ha).trans (hfst bs hb).symm) (by rw [hfst as ha]; exact hnd)
  rw [← List.map_snd_zip (l₁ := ns) (l₂ := as) (by omega), this, List.map_snd_zip (by omega)]

/-- AOL: two messages with the same legacy sign document are the same message (type and every field). -/
theorem aol_legacy_injective (a b : Aol.Msg) (h : aolLegacyDoc a = aolLegacyDoc b) : a = b := by
  have ht := congrArg LegacyDoc.typeName h
  have hf := congrArg LegacyDoc.fields h
  cases a <;> cases b
  -- two different messages have different type names
  all_goals try exact absurd (Option.some.inj ht) (by decide)
  -- one message has its fields under pairwise different names
  all_goals
    cases fieldsOf_inj hf rfl (by dsimp only [List.map]; decide)
    rfl

/-- DID: *within* one message type the legacy sign document determines every signed field (the collision
is only between the types, below). -/
theorem did_legacy_injective_same_type (docJson : Option Did.Doc → Bytes) (did did' : Bytes) (doc doc' : Option Did.Doc)
    (db db' vm vm' sig sig' fr fr' : Bytes)
    (h : didLegacyDoc docJson (.create did doc db vm sig fr) = didLegacyDoc docJson (.create did' doc' db' vm' sig' fr')) :
    did = did' ∧ docJson doc = docJson doc' ∧ vm = vm' ∧ sig = sig' ∧ fr = fr' := by
  have := fieldsOf_inj (congrArg LegacyDoc.fields h) rfl (by dsimp only [List.map]; decide)
  simp only [List.cons.injEq, Prod.mk.injEq, true_and, and_true] at this
  obtain ⟨h1, h2, h3, h4, h5⟩ := this
  exact ⟨h1, h2, h5, h4, h3⟩

/-- PNFT messages cannot be signed in legacy amino-JSON mode: none of them implements `Route` and `Type`. -/
theorem pnft_not_legacy_signable :
    (Generated.msgMethods.filter (fun e => e.2.contains "Route" && e.2.contains "Type")).map (·.1) =
      ["x/aol/types.MsgAddRecordRequest", "x/aol/types.MsgAddWriterRequest", "x/aol/types.MsgCreateTopicRequest",
       "x/aol/types.MsgDeleteWriterRequest", "x/did/types.MsgCreateDIDRequest", "x/did/types.MsgDeactivateDIDRequest",
       "x/did/types.MsgUpdateDIDRequest"] := rfl

/-- **Known finding (F1-DID).**  `MsgCreateDID` and `MsgUpdateDID` with the same field values have the same
legacy sign document. -/
theorem did_create_update_collide (docJson : Option Did.Doc → Bytes) (did : Bytes) (doc : Option Did.Doc)
    (db vm sig fr : Bytes) :
    didLegacyDoc docJson (.create did doc db vm sig fr) = didLegacyDoc docJson (.update did doc db vm sig fr) := rfl

/-- A deactivation never collides with a create / update that carries a document: only the latter's sign document
has a `document` field. -/
theorem did_deactivate_distinct (docJson : Option Did.Doc → Bytes) (did did' : Bytes) (doc : Option Did.Doc)
    (db vm vm' sig sig' fr fr' : Bytes) (hdoc : docJson doc ≠ []) :
    didLegacyDoc docJson (.deactivate did vm sig fr) ≠ didLegacyDoc docJson (.create did' doc db vm' sig' fr') := by
  intro h
  have hf := congrArg LegacyDoc.fields h
  have hin : (n_document, docJson doc) ∈ (didLegacyDoc docJson (.create did' doc db vm' sig' fr')).fields := by
    simp [didLegacyDoc, fieldsOf, field, hdoc]
  rw [← hf] at hin
  have := key_of_mem_fieldsOf hin
  simp only [List.map_cons, List.map_nil] at this
  revert this
  decide

/-- the renderer runs: the 95 bytes of `{"type":"aol/DeleteWriter","value":{…}}` for one-byte fields -/
example : (aolRender (.deleteWriter [0x74] [0x77] [0x6f])).length = 95 := by decide
/-- F1: the two pairs of messages that collided in the code as found -/
example : aolLegacyDoc (.addWriter [1] [] [] [2] [3]) ≠ aolLegacyDoc (.deleteWriter [1] [2] [3]) := by decide
example : aolLegacyDoc (.addRecord [1] [] [] [2] [3] []) ≠ aolLegacyDoc (.deleteWriter [1] [2] [3]) := by decide

end Panacea.C14
