import Panacea.Lemmas.Genesis
import Panacea.Lemmas.MapExt
import Panacea.Properties.C18
/-!
# C08 — Genesis export then import reproduces the custom-module state exactly

Proved for the model: `Set`-ting the entries of a sorted table in export order gives the table back; an AOL table whose keys
are canonical encodings of admitted tuples survives `export → import` (via `C18.string_roundtrip_admitted`), the DID
registry likewise (its keys are used verbatim); imported in any order, each distinct key reads back its entry (whole
tables: `C09.importTable_perm`).
**Partial:** the PNFT round trip (`SaveDenom` / `ImportPNFT` per exported entry) and the JSON codec are covered by the
`genesis` correspondence stream only; **known finding F15**: free-text string fields with invalid UTF-8 do not survive the
JSON export.
-/
namespace Panacea.C08
open Panacea CompKey Genesis Map

/-- `Set`-ting the entries of a sorted list in order rebuilds the list: the engine of every round trip. -/
theorem rebuild_sorted {V} (l : Map V) (acc : Map V) (hs : Map.Sorted (acc ++ l)) :
    l.foldl (fun m e => m.set e.1 e.2) acc = acc ++ l := by
  induction l generalizing acc with
  | nil => simp
  | cons e rest ih =>
    -- `e` is above all of `acc`, so setting it appends it
    have hmax : ∀ k' ∈ Map.keys acc, Bytes.lt k' e.1 = true := fun k' hk' =>
      (sorted_append.mp hs).2.2 k' hk' e.1 List.mem_cons_self
    rw [List.foldl_cons, set_append_max acc e.1 e.2 hmax, ih _ (by rwa [List.append_assoc]), List.append_assoc]
    rfl

/-- DID: import ∘ export is the identity on every sorted registry (tombstones included, verbatim). -/
theorem did_import_export (s : Did.State) (hs : Map.Sorted s) : didImport (didExport s) = s :=
  rebuild_sorted s [] hs

/-- Whatever the order in which distinct-keyed entries are imported (Go's map iteration order), each key reads back its
entry. -/
theorem import_get {V} (l : List (Bytes × V)) (hd : (l.map (·.1)).Nodup) (acc : Map V) (k : Bytes) (v : V)
    (hm : (k, v) ∈ l) : (l.foldl (fun m e => m.set e.1 e.2) acc).get k = some v := by
  rw [get_foldl_set_of_nodup l hd, get_of_mem_nodup hd hm]
  rfl

/-- keys of a table are canonical encodings of tuples the validators admit -/
def KeysAdmitted {V} (k : Kind) (m : Map V) : Prop :=
  ∀ key ∈ m.keys, ∃ comps, encode comps = some key ∧ C18.Admitted k comps ∧ decodeTyped k key = .ok comps

/-- The exported key string of an admitted key is imported under the same store key. -/
theorem entry_roundtrip (c : AddrCodec) (hc : c.Lawful) (k : Kind) (key : Bytes) (comps : List Bytes)
    (he : encode comps = some key) (ha : C18.Admitted k comps) :
    (decodeFromString c k (encodeToString c k comps)).bind encode = some key := by
  rw [C18.string_roundtrip_admitted c hc k comps ha]
  simpa using he

/-- **AOL: import ∘ export is the identity** on every sorted table whose keys are admitted encodings. -/
theorem aol_table_import_export {V} (c : AddrCodec) (hc : c.Lawful) (k : Kind) (m : Map V)
    (hs : Map.Sorted m) (hk : KeysAdmitted k m) :
    ∃ g, exportTable c k m = .ok g ∧ importTable c k g = .ok m := by
  -- entry by entry, importing the exported list performs the `set`s of `rebuild_sorted`
  have himp : ∀ (m : Map V), KeysAdmitted k m → ∃ g, exportTable c k m = .ok g ∧
      ∀ acc, g.foldl (importStep c k) (.ok acc) = .ok (m.foldl (fun mm e => mm.set e.1 e.2) acc) := by
    intro m
    induction m with
    | nil => exact fun _ => ⟨[], rfl, fun _ => rfl⟩
    | cons e rest ih =>
      intro hk
      obtain ⟨comps, hen, hadm, hdec⟩ := hk e.1 List.mem_cons_self
      obtain ⟨g, hg, hfold⟩ := ih fun key hkey => hk key (List.mem_cons_of_mem _ hkey)
      refine ⟨(encodeToString c k comps, e.2) :: g, ?_, fun acc => ?_⟩
      · rw [exportTable_cons, hg, hdec]
        rfl
      · rw [List.foldl_cons, List.foldl_cons,
          importStep_some c k acc (encodeToString c k comps, e.2) (entry_roundtrip c hc k _ comps hen hadm), hfold]
  obtain ⟨g, hg, hfold⟩ := himp m hk
  refine ⟨g, hg, ?_⟩
  unfold importTable
  rw [hfold, rebuild_sorted m [] hs]
  rfl

/-- **AOL: import ∘ export is the identity on whole states** whose tables are sorted and whose keys are admitted
encodings (what every reachable state is: `Lemmas/AolKeys.keysInv_run`). -/
theorem aol_import_export (c : AddrCodec) (hc : c.Lawful) (s : Aol.State)
    (hso : Map.Sorted s.owners) (hst : Map.Sorted s.topics) (hsw : Map.Sorted s.writers) (hsr : Map.Sorted s.records)
    (hko : KeysAdmitted .owner s.owners) (hkt : KeysAdmitted .topic s.topics)
    (hkw : KeysAdmitted .writer s.writers) (hkr : KeysAdmitted .record s.records) :
    ∃ g, aolExport c s = .ok g ∧ aolImport c g = .ok s := by
  obtain ⟨go, eo, io⟩ := aol_table_import_export c hc .owner s.owners hso hko
  obtain ⟨gt, et, it⟩ := aol_table_import_export c hc .topic s.topics hst hkt
  obtain ⟨gw, ew, iw⟩ := aol_table_import_export c hc .writer s.writers hsw hkw
  obtain ⟨gr, er, ir⟩ := aol_table_import_export c hc .record s.records hsr hkr
  refine ⟨{ owners := go, topics := gt, writers := gw, records := gr }, ?_, aolImport_eq_ok.mpr ⟨io, it, iw, ir⟩⟩
  unfold aolExport
  rw [eo, et, ew, er]
  rfl

end Panacea.C08
