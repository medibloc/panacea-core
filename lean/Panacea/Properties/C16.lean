import Panacea.Model.Validate
import Panacea.Lemmas.Outcome
import Panacea.Lemmas.Bytes
import Panacea.Lemmas.Did
import Panacea.Lemmas.Pnft
/-!
# C16 — Stateless acceptance equals the documented limits, for every field value

`DocumentedAol` and the DID predicates are transcribed from the property statement, `aol.md` and `did.md`,
`DocumentedPnft` from the property statement alone (x/pnft has no specification), independently of the code model
(`Validate.*`, `Did.validateBasic`); each validator is proved equivalent to its predicate for *all* byte strings.
-/
namespace Panacea.C16
open Panacea Validate
open Panacea.Outcome (seq_eq_ok ite_err_eq_ok)

/-- `[A-Za-z0-9._-]` -/
def NameChar (c : UInt8) : Prop :=
  (0x41 ≤ c ∧ c ≤ 0x5a) ∨ (0x61 ≤ c ∧ c ≤ 0x7a) ∨ (0x30 ≤ c ∧ c ≤ 0x39) ∨ c = 0x2e ∨ c = 0x5f ∨ c = 0x2d

def DocTopic (t : Bytes) : Prop := 1 ≤ t.length ∧ t.length ≤ 70 ∧ ∀ c ∈ t, NameChar c
def DocMoniker (m : Bytes) : Prop := m.length ≤ 70 ∧ ∀ c ∈ m, NameChar c
def DocDescription (d : Bytes) : Prop := d.length ≤ 5000
def DocRecordKey (k : Bytes) : Prop := k.length ≤ 70
def DocRecordValue (v : Bytes) : Prop := v.length ≤ 5000
def DocAddr (dec : Bytes → Option Bytes) (a : Bytes) : Prop := ∃ b, dec a = some b

def DocumentedAol (dec : Bytes → Option Bytes) : Aol.Msg → Prop
  | .createTopic t d o => DocTopic t ∧ DocDescription d ∧ DocAddr dec o
  | .addWriter t m d w o => DocTopic t ∧ DocMoniker m ∧ DocDescription d ∧ DocAddr dec w ∧ DocAddr dec o
  | .deleteWriter t w o => DocTopic t ∧ DocAddr dec w ∧ DocAddr dec o
  | .addRecord t k v w o f =>
    DocTopic t ∧ DocRecordKey k ∧ DocRecordValue v ∧ DocAddr dec w ∧ DocAddr dec o ∧ (f = [] ∨ DocAddr dec f)

theorem nameChar_iff (c : UInt8) : nameChar c = true ↔ NameChar c := by
  simp [nameChar, NameChar, UInt8.le_iff_toNat_le, or_assoc]

theorem all_nameChar_iff (t : Bytes) : t.all nameChar = true ↔ ∀ c ∈ t, NameChar c := by
  simp [List.all_eq_true, nameChar_iff]

theorem maxLen_iff (b : Bytes) (L : Nat) (e : String) :
    (if b.length > L then (.err e : Outcome Unit) else .ok ()) = .ok () ↔ b.length ≤ L := by
  rw [ite_err_eq_ok, Nat.not_lt, and_iff_left rfl]

theorem decodes_iff (dec : Bytes → Option Bytes) (a : Bytes) (e : String) :
    (if (dec a).isSome then (.ok () : Outcome Unit) else .err e) = .ok () ↔ DocAddr dec a := by
  unfold DocAddr
  cases dec a <;> simp

/-- `topic_iff`, `moniker_iff`, `did_iff`, `vmid_iff`: each identifier validator accepts exactly its documented format. -/
theorem topic_iff (t : Bytes) : validateTopicName t = .ok () ↔ DocTopic t := by
  rw [validateTopicName, ite_err_eq_ok, ite_err_eq_ok, DocTopic, ← all_nameChar_iff]
  cases t <;> simp [maxTopicLength, and_comm]

theorem moniker_iff (m : Bytes) : validateMoniker m = .ok () ↔ DocMoniker m := by
  rw [validateMoniker, ite_err_eq_ok, ite_err_eq_ok, DocMoniker, ← all_nameChar_iff]
  simp [maxMonikerLength]

theorem description_iff (d : Bytes) : validateDescription d = .ok () ↔ DocDescription d := maxLen_iff ..
theorem recordKey_iff (k : Bytes) : validateRecordKey k = .ok () ↔ DocRecordKey k := maxLen_iff ..
theorem recordValue_iff (v : Bytes) : validateRecordValue v = .ok () ↔ DocRecordValue v := maxLen_iff ..
theorem addr_iff (dec : Bytes → Option Bytes) (a : Bytes) : validAddr dec a = .ok () ↔ DocAddr dec a := decodes_iff ..

/-- **AOL**: a message passes stateless validation iff every field respects the published limits. -/
theorem aol_accept_iff_documented (dec : Bytes → Option Bytes) (m : Aol.Msg) :
    aolValidateBasic dec m = .ok () ↔ DocumentedAol dec m := by
  cases m <;> simp only [aolValidateBasic, DocumentedAol, seq_eq_ok, topic_iff, moniker_iff, description_iff,
    recordKey_iff, recordValue_iff, addr_iff]
  case addRecord f => by_cases hf : f = [] <;> simp [hf, addr_iff]

/-- the address `GetSigners` decodes first: the owner, for `addRecord` the writer -/
def aolActor : Aol.Msg → Bytes
  | .createTopic _ _ o | .addWriter _ _ _ _ o | .deleteWriter _ _ o => o
  | .addRecord _ _ _ w _ _ => w

theorem DocumentedAol.actor {dec : Bytes → Option Bytes} {m : Aol.Msg} (h : DocumentedAol dec m) :
    DocAddr dec (aolActor m) := by
  cases m <;> simp only [DocumentedAol] at h <;> simp only [aolActor, h]

theorem DocumentedAol.feePayer {dec : Bytes → Option Bytes} {t k v w o f : Bytes}
    (h : DocumentedAol dec (.addRecord t k v w o f)) : f = [] ∨ DocAddr dec f :=
  h.2.2.2.2.2

def DocumentedPnft (dec : Bytes → Option Bytes) : PnftMsg → Prop
  | .createDenom id name symbol _ _ _ _ creator => id ≠ [] ∧ (0x00 : UInt8) ∉ id ∧ name ≠ [] ∧ symbol ≠ [] ∧ DocAddr dec creator
  | .updateDenom id _ _ _ _ _ _ updater => id ≠ [] ∧ DocAddr dec updater
  | .deleteDenom id remover => id ≠ [] ∧ DocAddr dec remover
  | .transferDenom id sender receiver => id ≠ [] ∧ DocAddr dec sender ∧ DocAddr dec receiver
  | .mintPNFT denomId id name _ _ _ _ creator =>
    denomId ≠ [] ∧ id ≠ [] ∧ name ≠ [] ∧ (0x00 : UInt8) ∉ denomId ∧ (0x00 : UInt8) ∉ id ∧ DocAddr dec creator
  | .transferPNFT denomId id sender receiver => denomId ≠ [] ∧ id ≠ [] ∧ DocAddr dec sender ∧ DocAddr dec receiver
  | .burnPNFT denomId id burner => denomId ≠ [] ∧ id ≠ [] ∧ DocAddr dec burner

def pnftActor : PnftMsg → Bytes
  | .createDenom _ _ _ _ _ _ _ a | .updateDenom _ _ _ _ _ _ _ a | .deleteDenom _ a | .transferDenom _ a _
  | .mintPNFT _ _ _ _ _ _ _ a | .transferPNFT _ _ a _ | .burnPNFT _ _ a => a

theorem DocumentedPnft.actor {dec : Bytes → Option Bytes} {m : PnftMsg} (h : DocumentedPnft dec m) :
    DocAddr dec (pnftActor m) := by
  cases m <;> simp only [DocumentedPnft] at h <;> simp only [pnftActor, h]

theorem nonEmpty_iff (b : Bytes) (w : String) : nonEmpty b w = .ok () ↔ b ≠ [] := by
  rw [nonEmpty, ite_err_eq_ok, and_iff_left rfl]

theorem noNul_iff (b : Bytes) : noNul b = .ok () ↔ (0x00 : UInt8) ∉ b :=
  Pnft.noNul_eq_ok

theorem pnftAddr_iff (dec : Bytes → Option Bytes) (a : Bytes) : pnftAddr dec a = .ok () ↔ DocAddr dec a := decodes_iff ..

/-- `AccAddressFromBech32("")` fails -/
theorem ne_nil_of_docAddr (dec : Bytes → Option Bytes) (hd : dec [] = none) (a : Bytes)
    (h : DocAddr dec a) : a ≠ [] := by
  rintro rfl
  obtain ⟨b, hb⟩ := h
  rw [hd] at hb
  cases hb

theorem pnft_documented_of_accept {dec : Bytes → Option Bytes} {m : PnftMsg} (h : pnftValidateBasic dec m = .ok ()) :
    DocumentedPnft dec m := by
  cases m <;> simp only [pnftValidateBasic, seq_eq_ok, nonEmpty_iff, noNul_iff, pnftAddr_iff] at h
  all_goals simp only [DocumentedPnft, h, ne_eq, not_false_eq_true, and_self]

/-- **PNFT**: accepted iff the required identifiers, name, symbol and actor addresses are present and
well-formed (`dec [] = none`: the empty string is not an address). -/
theorem pnft_accept_iff_documented (dec : Bytes → Option Bytes) (hd : dec [] = none) (m : PnftMsg) :
    pnftValidateBasic dec m = .ok () ↔ DocumentedPnft dec m := by
  refine ⟨pnft_documented_of_accept, fun h => ?_⟩
  have ne := ne_nil_of_docAddr dec hd
  cases m <;> simp only [DocumentedPnft] at h
  all_goals simp only [pnftValidateBasic, seq_eq_ok, nonEmpty_iff, noNul_iff, pnftAddr_iff, h, ne, ne_eq,
    not_false_eq_true, and_self]

/-- `did:panacea:<32–44 base58 characters>` -/
def DocDID (d : Bytes) : Prop :=
  ∃ rest, d = Did.didPrefix ++ rest ∧ 32 ≤ rest.length ∧ rest.length ≤ 44 ∧ ∀ c ∈ rest, c ∈ Did.b58Alphabet

/-- `<did>#<1–128 non-space characters>` -/
def DocVMID (id did : Bytes) : Prop :=
  ∃ suffix, id = did ++ [0x23] ++ suffix ∧ 1 ≤ suffix.length ∧ suffix.length ≤ 128 ∧
    ∀ c ∈ suffix, c ≠ 0x09 ∧ c ≠ 0x0a ∧ c ≠ 0x0c ∧ c ≠ 0x0d ∧ c ≠ 0x20

theorem isB58_iff (c : UInt8) : Did.isB58 c = true ↔ c ∈ Did.b58Alphabet := by
  unfold Did.isB58 Did.b58Index
  rw [List.isSome_idxOf?]

theorem prefixed_iff {p d : Bytes} {Q : Bytes → Prop} :
    (∃ r, d = p ++ r ∧ Q r) ↔ p.isPrefixOf d = true ∧ Q (d.drop p.length) := by
  rw [Bytes.isPrefixOf_iff]
  constructor
  · rintro ⟨r, rfl, h⟩
    exact ⟨⟨r, rfl⟩, by rwa [List.drop_left]⟩
  · rintro ⟨⟨r, rfl⟩, h⟩
    exact ⟨r, rfl, by rwa [List.drop_left] at h⟩

theorem did_iff (d : Bytes) : Did.validateDID d = true ↔ DocDID d := by
  unfold Did.validateDID DocDID
  simp only [Bool.and_eq_true, decide_eq_true_eq, List.all_eq_true, isB58_iff, and_assoc]
  exact Iff.symm prefixed_iff

theorem vmid_iff (id did : Bytes) : Did.validateVMID id did = true ↔ DocVMID id did := by
  unfold Did.validateVMID Did.maxVMIDLen DocVMID
  have hsp : ∀ c : UInt8, (!Did.isSpace c) = true ↔ (c ≠ 0x09 ∧ c ≠ 0x0a ∧ c ≠ 0x0c ∧ c ≠ 0x0d ∧ c ≠ 0x20) := by
    intro c
    simp [Did.isSpace, and_assoc]
  simp only [Bool.and_eq_true, decide_eq_true_eq, List.all_eq_true, hsp, and_assoc]
  refine Iff.trans (and_congr_right fun _ => ?_) (Iff.symm prefixed_iff)
  rw [and_left_comm, ← List.length_pos_iff, Nat.succ_le_iff]

/-- **DID**: accepted iff the DID matches `did:panacea:<32–44 base58>`, a proof is present, the document is
present, well-formed per the method specification (`Did.Doc.valid`, whose identifier clauses are the two
equivalences above) and describes that DID, and the sender address is well-formed. -/
theorem did_accept_iff_documented (dec : Bytes → Option Bytes) (did : Bytes) (doc : Option Did.Doc)
    (db vmID sig fr : Bytes) :
    (Did.validateBasic dec (.create did doc db vmID sig fr) = .ok () ↔
      DocDID did ∧ (∃ d, doc = some d ∧ d.valid = true ∧ d.id = did) ∧ sig ≠ [] ∧ DocAddr dec fr) ∧
    (Did.validateBasic dec (.update did doc db vmID sig fr) = .ok () ↔
      DocDID did ∧ (∃ d, doc = some d ∧ d.valid = true ∧ d.id = did) ∧ sig ≠ [] ∧ DocAddr dec fr) ∧
    (Did.validateBasic dec (.deactivate did vmID sig fr) = .ok () ↔
      DocDID did ∧ sig ≠ [] ∧ DocAddr dec fr) := by
  have hA : (dec fr).isSome = true ↔ DocAddr dec fr := Option.isSome_iff_exists
  -- `Create` and `Update` are validated by the same code
  have hc := (Did.validateBasic_create_eq_ok (da := dec) (did := did) (vmID := vmID) (sig := sig) (doc := doc)
    (db := db) (fr := fr)).trans (by rw [did_iff, hA])
  exact ⟨hc, hc, Did.validateBasic_deactivate_eq_ok.trans (by rw [did_iff, hA])⟩

def didFrom : Did.Msg → Bytes
  | .create _ _ _ _ _ f | .update _ _ _ _ _ f | .deactivate _ _ _ f => f

theorem did_accept_from {dec : Bytes → Option Bytes} {m : Did.Msg} (h : Did.validateBasic dec m = .ok ()) :
    DocAddr dec (didFrom m) := by
  cases m with
  | create did doc db vm sig fr => exact ((did_accept_iff_documented dec did doc db vm sig fr).1.1 h).2.2.2
  | update did doc db vm sig fr => exact ((did_accept_iff_documented dec did doc db vm sig fr).2.1.1 h).2.2.2
  | deactivate did vm sig fr => exact ((did_accept_iff_documented dec did none [] vm sig fr).2.2.1 h).2.2

/-- Every topic name the validator admits is free of the genesis key separator `/` (the link C18's
string round trip relies on). -/
theorem admitted_topic_has_no_slash (t : Bytes) (h : validateTopicName t = .ok ()) : CompKey.slash ∉ t := by
  have := (topic_iff t).mp h
  intro hm
  have hc := this.2.2 _ hm
  simp [NameChar, CompKey.slash, UInt8.le_iff_toNat_le] at hc

example : validateTopicName (List.replicate 70 0x61) = .ok () := by decide
example : validateTopicName (List.replicate 71 0x61) ≠ .ok () := by decide
example : validateTopicName [] ≠ .ok () := by decide
example : validateTopicName [0x61, 0x2f] ≠ .ok () := by decide
example : validateMoniker [] = .ok () := by decide

end Panacea.C16
