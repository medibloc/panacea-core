import Panacea.Lemmas.AolCount
import Panacea.Lemmas.Paginate
import Panacea.Properties.C18
import Panacea.Properties.C01
/-!
# C13 — AOL counters and listings equal the real contents, with no cross-talk

Counters: `CountInv` says that an owner's `total_topics` and a topic's `total_writers` equal the number of entries the
corresponding listing iterates over, as `uint64` (modulo `2^64`; the corollaries state plain equality for realistic
sizes); `total_records` is `C01.addRecord_acknowledged` (hence the import of `Properties.C01`).  Listings: every item
returned belongs to exactly the requested owner / topic, never to a name that merely shares a prefix.  The walk and
offset-page theorems are about any sorted listing with non-empty keys; the reverse walk never sends the one key on
which the SDK's reverse iterator panics (F14).
-/
namespace Panacea.C13
open Panacea CompKey Aol Map

/-- The counters of the empty genesis are right. -/
theorem countInv_genesis : CountInv {} := countInv_empty

/-- Every message keeps `total_topics` and `total_writers` equal (as `uint64`) to what the listings iterate over. -/
theorem countInv_reachable (c : AddrCodec) (s : State) (ops : List (Int × Msg)) (hi : CountInv s) :
    CountInv (run c s ops) :=
  List.foldlRecOn (motive := CountInv) ops _ hi fun _ hs _ _ => step_cases hs fun _ _ h => h.countInv hs

theorem counter_eq_listed {V} (m : Map V) (p : Bytes) {a : Nat} (h : a % two64 = countP p m.keys % two64)
    (hsmall : (m.prefixView p).length < 2 ^ 64) (hw : a < 2 ^ 64) : a = (m.prefixView p).length := by
  rw [prefixView_length] at hsmall ⊢
  have h1 : a % two64 = a := Nat.mod_eq_of_lt hw
  have h2 : countP p m.keys % two64 = countP p m.keys := Nat.mod_eq_of_lt hsmall
  rw [← h1, h, h2]

/-- The reported number of topics of an owner equals the number of topic entries the `Topics` listing of
that owner iterates over. -/
theorem total_topics_eq_listed (s : State) (hi : CountInv s) (o ok : Bytes) (hok : encode [o] = some ok)
    (hsmall : (s.topics.prefixView ok).length < 2 ^ 64)
    (hw : ((s.owners.get ok).getD {}).totalTopics < 2 ^ 64) :
    ((s.owners.get ok).getD {}).totalTopics = (s.topics.prefixView ok).length :=
  counter_eq_listed _ _ (hi.topicsCount o ok hok) hsmall hw

/-- The reported number of writers of a topic equals the number of writer entries the `Writers` listing
of that topic iterates over. -/
theorem total_writers_eq_listed (s : State) (hi : CountInv s) (o t tk : Bytes) (topic : Topic)
    (htk : encode [o, t] = some tk) (hg : s.topics.get tk = some topic)
    (hsmall : (s.writers.prefixView tk).length < 2 ^ 64) (hw : topic.totalWriters < 2 ^ 64) :
    topic.totalWriters = (s.writers.prefixView tk).length :=
  counter_eq_listed _ _ (hi.writersCount o t tk topic htk hg) hsmall hw

/-- `onResult` of the listings invents nothing: a returned name is a component of a returned key. -/
theorem decodeListed_mem {α} (k : Kind) (pfx : Bytes) (idx : Nat) :
    ∀ (items : List (Bytes × α)) (names : List Bytes), decodeListed k pfx idx items = .ok names →
      ∀ n ∈ names, ∃ e ∈ items, ∃ comps, decodeTyped k (pfx ++ e.1) = .ok comps ∧ comps[idx]? = some n
  | [], _, h, n, hn => by
    cases h
    cases hn
  | e :: rest, _, h, n, hn => by
    obtain ⟨comps, x, ns, hd, hx, hr, rfl⟩ := decodeListed_cons_ok h
    rcases List.mem_cons.mp hn with rfl | hn
    · exact ⟨e, List.mem_cons_self, comps, hd, hx⟩
    · obtain ⟨e', he', r⟩ := decodeListed_mem k pfx idx rest ns hr n hn
      exact ⟨e', List.mem_cons_of_mem _ he', r⟩

/-- `hkind`: keys of the listed kind have exactly one component more than the prefix (topic under owner, writer under
topic), so that component is the whole rest of the key. -/
theorem listed_under_prefix {V} (kind : Kind) (m : Map V) (pre : List Bytes) {pfx : Bytes} (hpfx : encode pre = some pfx)
    (hkind : ∀ bz comps, decodeTyped kind bz = .ok comps → comps.length = pre.length + 1)
    {req : Paginate.PageRequest} {items : List (Bytes × V)} {page : Paginate.PageResponse} {names : List Bytes}
    (hpg : Paginate.paginate (m.prefixView pfx) req = .ok (items, page))
    (hdl : decodeListed kind pfx pre.length items = .ok names) :
    ∀ n ∈ names, ∃ key, encode (pre ++ [n]) = some key ∧ m.has key = true := by
  intro n hn
  obtain ⟨e, he, comps, hdec, hidx⟩ := decodeListed_mem kind pfx pre.length items names hdl n hn
  have hkey : (pfx ++ e.1, e.2) ∈ m := mem_prefixView.mp (Paginate.paginate_subset hpg e he)
  have hcanon := C18.decodeTyped_canonical kind (pfx ++ e.1) comps hdec
  have hlen := hkind _ _ hdec
  -- the key's encoding starts with that of `pre`, so its components start with `pre`; one more makes the arity
  obtain ⟨rest, rfl⟩ := prefix_of_encode_prefix hpfx hcanon (List.prefix_append _ _)
  rw [List.getElem?_append_right (Nat.le_refl _), Nat.sub_self] at hidx
  rw [List.length_append] at hlen
  obtain ⟨x, rfl⟩ := List.length_eq_one_iff.mp (Nat.add_left_cancel hlen)
  cases hidx
  exact ⟨pfx ++ e.1, hcanon, has_iff_mem_keys.mpr (List.mem_map.mpr ⟨_, hkey, rfl⟩)⟩

/-- **No cross-talk (topics).**  Whatever the pagination request, every name the `Topics` query returns
for an owner is the name of a topic stored under *that* owner. -/
theorem topics_listing_only_owner (c : AddrCodec) (s : State) (oa : Bytes) (req : Paginate.PageRequest)
    (names : List Bytes) (page : Paginate.PageResponse)
    (h : queryTopics c s oa req = .ok (names, page)) :
    ∃ o, c.dec oa = some o ∧ ∀ n ∈ names, ∃ tk, encode [o, n] = some tk ∧ s.topics.has tk = true := by
  obtain ⟨o, pfx, items, ho, hpfx, hpg, hdl⟩ := queryTopics_ok h
  exact ⟨o, ho, listed_under_prefix .topic s.topics [o] hpfx (fun _ _ => decodeTyped_topic_length) hpg hdl⟩

/-- **No cross-talk (writers).**  Whatever the pagination request, every address the `Writers` query returns
for `(owner, topic)` is a writer stored under exactly that owner and exactly that topic (never a topic whose
name merely starts with the requested one, never another owner's). -/
theorem writers_listing_only_topic (c : AddrCodec) (s : State) (oa t : Bytes) (req : Paginate.PageRequest)
    (ws : List Bytes) (page : Paginate.PageResponse)
    (h : queryWriters c s oa t req = .ok (ws, page)) :
    ∃ o, c.dec oa = some o ∧ ∀ w ∈ ws, ∃ wk, encode [o, t, w] = some wk ∧ s.writers.has wk = true := by
  obtain ⟨o, pfx, items, ho, hpfx, hpg, hdl⟩ := queryWriters_ok h
  exact ⟨o, ho, listed_under_prefix .writer s.writers [o, t] hpfx (fun _ _ => decodeTyped_writer_length) hpg hdl⟩

/-- **Forward walk completeness** for any listing view: following `next_key` from the start with any
page size returns the whole view, in order, each entry once. -/
theorem listing_walk_complete {V} (items : List (Bytes × V)) (hs : Paginate.SortedItems items)
    (hne : ∀ e ∈ items, e.1 ≠ []) (limit : Nat) (hl : 0 < limit) (hlim : limit + 1 < 2 ^ 64) :
    Paginate.walkFwd items limit (items.length + 1) [] = some items :=
  Paginate.walk_complete items false limit (fun _ _ => rfl) hs hne hl hlim

/-- **Reverse walk completeness**: following `next_key` with `reverse = true` from the start returns the whole
listing in descending order, each item once, for any page size. -/
theorem listing_reverse_walk_complete {V : Type} (items : List (Bytes × V)) (hs : Paginate.SortedItems items)
    (hne : ∀ e ∈ items, e.1 ≠ []) (limit : Nat) (hl : 0 < limit) (hlim : limit + 1 < 2 ^ 64) :
    Paginate.walkRev items limit (items.length + 1) [] = some items.reverse :=
  Paginate.walk_complete items true limit (fun _ _ => rfl) hs hne hl hlim

/-- **Offset-style page**: exactly the requested slice of the listing in the requested direction, `next_key` the
key of the entry after it, `total` the listing's length when asked for. -/
theorem listing_offset_page {V : Type} (items : List (Bytes × V)) (o l : Nat) (ct rev : Bool) (hl : 0 < l)
    (hlim : o + l + 1 < 2 ^ 64) :
    Paginate.paginate items { offset := o, limit := l, countTotal := ct, reverse := rev } =
      .ok (((Paginate.ordered items rev).drop o).take l,
        { nextKey := Paginate.keyAt (Paginate.ordered items rev) (o + l), total := if ct then items.length else 0 }) :=
  Paginate.offset_page_eq items o l ct rev hl hlim

/-- **Offset walk completeness**: the pages at offsets `0, l, 2l, …, (k-1)·l` with `k·l ≥ n` are together the
whole listing, in order, each item once. -/
theorem listing_offset_walk_complete {V : Type} (L : List (Bytes × V)) (l k : Nat) (hk : L.length ≤ k * l) :
    ((List.range k).map fun j => (L.drop (j * l)).take l).flatten = L :=
  (Paginate.offset_pages_concat L l k).trans (List.take_of_length_le hk)

/-- `count_total` (always on with the default limit) reports the number of entries of the listing. -/
theorem listing_count_total {V} (items res : List (Bytes × V)) (req : Paginate.PageRequest) (page : Paginate.PageResponse)
    (hk : req.key = []) (hc : req.countTotal = true ∨ req.limit = 0)
    (h : Paginate.paginate items req = .ok (res, page)) : page.total = items.length := by
  rw [Paginate.paginate_of_nokey items hk, Paginate.pageByOffset_eq] at h
  cases h
  rcases hc with hc | hc
  · by_cases h0 : req.limit = 0 <;> simp [hc, h0]
  · simp [hc]

/-! F25, the one page request for which an offset walk loses items: `query.Paginate` computes `end := offset + limit`
in `uint64`; the model wraps as Go does.  With the largest limit and a non-zero offset the page is empty although
items remain; one less and it is complete. -/
example : Paginate.pageByOffset [([1], ()), ([2], ()), ([3], ())] 1 (2 ^ 64 - 1) true false =
    .ok ([], { nextKey := [], total := 3 }) := by decide
example : Paginate.pageByOffset [([1], ()), ([2], ()), ([3], ())] 1 (2 ^ 64 - 2) true false =
    .ok ([([2], ()), ([3], ())], { nextKey := [], total := 3 }) := by decide

end Panacea.C13
