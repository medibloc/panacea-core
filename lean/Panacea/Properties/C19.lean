import Panacea.Generated.Facts
/-!
# C19 — Software upgrades run to completion and preserve custom-module data

**Configuration half.**  `Generated.upgrades` and `Generated.mountedStores` are extracted from `app/app.go`,
`app/upgrades/*/types.go` and `app/keepers/keys.go`.  `baseline`, the stores of the release that preceded the first
descriptor (v2.0.5), is history, not derivable from the tree: a recorded constant in the trusted base.
**Dynamic half (partial).**  The custom modules have `ConsensusVersion = 1` and register no migrations, so
`RunMigrations` does not touch them (`custom_modules_not_migrated`); that the x/upgrade machinery, the store loader and
restarts around the upgrade height behave is exercised by the `upgrade` stream on the real application: support, not
proof.
-/
namespace Panacea.C19
open Panacea

/-- stores mounted by the release before the first upgrade descriptor (recorded constant) -/
def baseline : List String :=
  ["acc", "bank", "staking", "mint", "distribution", "slashing", "gov", "params", "upgrade", "evidence",
   "capability", "ibc", "transfer", "aol", "did", "burn", "token", "wasm"]

/-- store set after applying the descriptors in order: drop `Deleted`, add `Added` -/
def applyUpgrades (base : List String) (us : List (String × List String × List String)) : List String :=
  us.foldl (fun acc u => (acc.filter fun s => !u.2.2.contains s) ++ u.2.1) base

def sameSet (a b : List String) : Bool := a.all b.contains && b.all a.contains

/-- A node that upgrades through the releases in order ends with exactly the stores this binary mounts. -/
theorem fold_descriptors_eq_mounted :
    sameSet (applyUpgrades baseline Generated.upgrades) Generated.mountedStores = true := by decide +kernel

theorem mem_applyUpgrades {s : String} {base : List String} {us : List (String × List String × List String)}
    (h : s ∈ applyUpgrades base us) : s ∈ base ∨ ∃ u ∈ us, s ∈ u.2.1 := by
  induction us generalizing base with
  | nil => exact Or.inl h
  | cons u us ih =>
    rcases ih (base := (base.filter fun s => !u.2.2.contains s) ++ u.2.1) h with h | ⟨u', hu', h⟩
    · rcases List.mem_append.mp h with h | h
      · exact Or.inl (List.mem_filter.mp h).1
      · exact Or.inr ⟨u, List.mem_cons_self, h⟩
    · exact Or.inr ⟨u', List.mem_cons_of_mem _ hu', h⟩

/-- every mounted store predates the first descriptor or is introduced by one of them (from
`fold_descriptors_eq_mounted`: what survives the fold came from the baseline or an `Added` list) -/
theorem every_mounted_store_accounted :
    Generated.mountedStores.all (fun s => baseline.contains s || Generated.upgrades.any (fun u => u.2.1.contains s)) = true := by
  have h := (Bool.and_eq_true _ _).mp fold_descriptors_eq_mounted
  refine List.all_eq_true.mpr fun s hs => ?_
  rcases mem_applyUpgrades (List.contains_iff_mem.mp (List.all_eq_true.mp h.2 s hs)) with hb | ⟨u, hu, hsu⟩
  · rw [List.contains_iff_mem.mpr hb, Bool.true_or]
  · exact Bool.or_eq_true_iff.mpr (Or.inr (List.any_eq_true.mpr ⟨u, hu, List.contains_iff_mem.mpr hsu⟩))

/-- no descriptor deletes a store that is mounted (a deleted store is never re-added later either) -/
theorem no_mounted_store_deleted :
    Generated.mountedStores.all (fun s => !Generated.upgrades.any (fun u => u.2.2.contains s)) = true := by decide +kernel

/-- everything a descriptor adds is mounted by this binary -/
theorem added_stores_are_mounted :
    Generated.upgrades.all (fun u => u.2.1.all Generated.mountedStores.contains) = true := by decide +kernel

/-- no store is added twice, and nothing that already exists is added -/
theorem no_double_add :
    (Generated.upgrades.flatMap (·.2.1)).all (fun s => !baseline.contains s) = true ∧
    (Generated.upgrades.flatMap (·.2.1)).Nodup := by decide +kernel

/-- the upgrade that leads to this release is the last descriptor and changes no store -/
theorem last_upgrade_is_v2_2_1 : Generated.upgrades.getLast? = some ("v2.2.1", [], []) := by decide

/-- `RunMigrations` for one module: its migrations from version `fromV` up to `toV`, in order. -/
def migrate {S : Type} (migrations : Nat → S → S) (fromV toV : Nat) (s : S) : S :=
  (List.range' fromV (toV - fromV)).foldl (fun st v => migrations v st) s

/-- The custom modules are at consensus version 1 and the version map they are migrated *from* also says 1 (they were
initialised at 1 and never bumped), so `RunMigrations` runs no migration for them. -/
theorem custom_modules_not_migrated :
    Generated.consensusVersions = [("x/aol", "1"), ("x/burn", "1"), ("x/did", "1"), ("x/pnft", "1")] ∧
    ∀ (S : Type) (m : Nat → S → S) (s : S), migrate m 1 1 s = s := by
  exact ⟨by decide +kernel, fun _ _ _ => rfl⟩

/-- Restarting after the upgrade block yields the same node: the handlers' closures call nothing on the application's
long-lived objects without the block context (F24). -/
theorem upgrade_handlers_touch_only_block_state : Panacea.Generated.handlerMemoryCalls = [] := by decide

end Panacea.C19
