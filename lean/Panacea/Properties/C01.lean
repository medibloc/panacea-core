import Panacea.Lemmas.AolDense
import Panacea.Lemmas.AolGenesis
/-!
# C01 — AOL records are append-only: immutable, never deleted, densely numbered

Histories are arbitrary finite lists of the four AOL messages, valid or not, from any account: a message that fails or
panics leaves the state unchanged, which is what the transaction layer guarantees (C15).  Restarts (C10) and genesis
export/import (C08) are identities on the states concerned, so they do not appear as operations here.
Hypotheses that remain: `RecInv s₀`, the start state's records and `total_records` counters agree (true of the empty
genesis and of every state that passed the repaired genesis validation, F26; preserved by every message); and
`B + history.length < 2^64`, where `B` bounds every `total_records` of the start state: the `uint64` counters do not
overflow during the history.
-/
namespace Panacea.C01
open Panacea CompKey Aol

/-- The four tables live under different prefix bytes, so a key of one table is never a key of another. -/
theorem tables_disjoint (p q : UInt8) (k1 k2 : Bytes) (h : p ≠ q) : p :: k1 ≠ q :: k2 := by
  intro he
  exact h (List.cons.inj he).1

/-- `(owner, topic, offset) ↦ store key` is injective. -/
theorem recordKey_injective (o t o' t' : Bytes) (n n' : Nat) (k : Bytes) (hn : n < 2 ^ 64) (hn' : n' < 2 ^ 64)
    (h : recordKey o t n = .ok k) (h' : recordKey o' t' n' = .ok k) : o = o' ∧ t = t' ∧ n = n' :=
  recordKey_inj hn hn' (mustEncode_eq_ok.mp h) (mustEncode_eq_ok.mp h')

/-- The state invariant holds for the empty genesis. -/
theorem recInv_genesis : RecInv {} := recInv_empty

/-- `RecInv` holds for every state imported from a genesis that passed the (repaired, F26) validation: by the pigeonhole
principle the stored offsets of a topic are exactly `0 … total_records-1`. -/
theorem recInv_validated_genesis (s : State) (h : GenesisChecked s) : RecInv s := by
  refine ⟨h.recBelow, ?_, h.bounded⟩
  intro o t tk topic n rk htk hget hn hrk
  obtain ⟨offs, hd, hl, hall⟩ := h.recCount o t tk topic htk hget
  have hb : ∀ x ∈ offs, x < topic.totalRecords := by
    intro x hx
    obtain ⟨hx64, rk', hrk', hhas⟩ := hall x hx
    obtain ⟨tk', topic', htk', hget', hlt⟩ := h.recBelow o t x rk' hx64 hrk' hhas
    cases htk.symm.trans htk'
    cases hget.symm.trans hget'
    exact hlt
  obtain ⟨_, rk', hrk', hhas⟩ := hall n (nodup_full topic.totalRecords offs hd hb hl n hn)
  cases hrk.symm.trans hrk'
  exact hhas

/-- `RecInv` is kept by every history of messages during which no `total_records` counter overflows. -/
theorem recInv_reachable (c : AddrCodec) (s : State) (B : Nat) (ops : List (Int × Msg))
    (hi : RecInv s) (hb : Below s B) (hB : B + ops.length < 2 ^ 64) : RecInv (run c s ops) :=
  (recInv_run ops hi hb hB).1

/-- An acknowledged append: the reported offset is `total_records` of the topic before the append, which
is exactly the number of records the topic held (offsets `0 … offset-1` exist, `offset` and above do
not), and the record is immediately readable with the submitted key, value, writer and the block time. -/
theorem addRecord_acknowledged (c : AddrCodec) (now : Int) (s s' : State) (tn key value wa oa fp ro rt : Bytes)
    (n B : Nat) (hi : RecInv s) (hb : Below s B) (hB : B + 1 < 2 ^ 64)
    (h : handle c now s (.addRecord tn key value wa oa fp) = .ok (s', .addRecord ro rt n)) :
    ro = oa ∧ rt = tn ∧
    (∃ o, c.dec oa = some o ∧ n = totalRecords s o tn ∧ totalRecords s' o tn = n + 1) ∧
    (∀ m, m < 2 ^ 64 → ((queryRecord c s oa tn m).isOk = true ↔ m < n)) ∧
    queryRecord c s' oa tn n = .ok { key := key, value := value, nanoTimestamp := now, writerAddress := wa } := by
  cases effect_of_handle h with
  | addRecord hdo _ htk hget _ _ hrk =>
  have htot := (totalRecords_eq htk).trans (congrArg Topic.totalRecords (topicAt_of_get hget))
  refine ⟨rfl, rfl, ⟨_, hdo, htot.symm, ?_⟩, ?_, ?_⟩
  · rcases (effect_of_handle h).totalRecords_step hb hB _ tn with ⟨_, _, h2⟩ | ⟨h1, _⟩
    · rw [h2, htot]
    · simp [targets, hdo] at h1
  · exact fun m hm => htot ▸ queryRecord_isOk_iff hi hdo hm
  · rw [queryRecord_eq hdo hrk, Map.get_set_eq]

/-- **Immutability, forever.**  Once an append is acknowledged with offset `n`, the query for
`(owner, topic, n)` returns exactly that key, value, writer and block timestamp after *every* further
history of messages (valid or not, from anyone, including writer removals and re-additions). -/
theorem acked_record_forever (c : AddrCodec) (now : Int) (s s' : State) (tn key value wa oa fp ro rt : Bytes)
    (n B : Nat) (ops : List (Int × Msg))
    (hi : RecInv s) (hb : Below s B) (hB : B + 1 + ops.length < 2 ^ 64)
    (h : handle c now s (.addRecord tn key value wa oa fp) = .ok (s', .addRecord ro rt n)) :
    queryRecord c (run c s' ops) oa tn n =
      .ok { key := key, value := value, nanoTimestamp := now, writerAddress := wa } := by
  have hB1 : B + 1 < two64 := Nat.lt_of_le_of_lt (Nat.le_add_right _ _) hB
  have he := (effect_of_handle h).toRec
  exact queryRecord_run ops (he.recInv hi hb hB1) (he.below_succ hb) hB
    (addRecord_acknowledged c now s s' tn key value wa oa fp ro rt n B hi hb hB1 h).2.2.2.2

/-- **Dense numbering.**  Along any history, the offsets acknowledged for a topic `(o, t)` are
`k, k+1, k+2, …` where `k` is the topic's record count at the start: no gap, no reuse. -/
theorem offsets_dense (c : AddrCodec) (o t : Bytes) (s : State) (B : Nat) (ops : List (Int × Msg))
    (hb : Below s B) (hB : B + ops.length < 2 ^ 64) :
    acks c o t s ops = List.range' (totalRecords s o t) (acks c o t s ops).length := by
  induction ops generalizing s B with
  | nil => simp [acks]
  | cons op ops ih =>
    have hB' : B + 1 + ops.length < 2 ^ 64 := by
      rw [List.length_cons] at hB
      omega
    obtain ⟨k, hk, htot⟩ := acks_cons (c := c) o t hb (Nat.lt_of_le_of_lt (Nat.le_add_right _ _) hB') op ops
    have ih' := ih _ _ (below_step (c := c) (op := op) hb) hB'
    rw [htot] at ih'
    rw [hk, List.length_append, List.length_range', ← List.range'_append_1, ← ih']

/-- No message other than a successful `AddRecord` changes the record table at all, and that one only
adds the entry at the acknowledged offset (everything stored before is still there, unchanged). -/
theorem record_table_append_only (c : AddrCodec) (s : State) (B : Nat) (op : Int × Msg)
    (hi : RecInv s) (hb : Below s B) (hB : B + 1 < 2 ^ 64) (k : Bytes) (rec : Record)
    (hk : s.records.get k = some rec) : (step c s op).records.get k = some rec :=
  record_frame_step hi k rec hk

/-- A toy address codec: the text of an address is its bytes (enough for the examples). -/
def idCodec : AddrCodec := { enc := id, dec := fun s => if addrOk s then some s else none }

def ex0 : State := run idCodec {} [(5, .createTopic [0x74] [] [1]), (6, .addWriter [0x74] [] [] [2] [1])]

example : Below ex0 0 := by
  intro tk topic h
  have : ex0.topics = [([1, 1, 1, 0x74], { description := [], totalRecords := 0, totalWriters := 1 })] := by decide
  cases List.mem_singleton.mp (this ▸ Map.mem_of_get h)
  exact Nat.le_refl 0

example : handle idCodec 7 ex0 (.addRecord [0x74] [9] [8] [2] [1] []) =
    .ok (step idCodec ex0 (7, .addRecord [0x74] [9] [8] [2] [1] []), .addRecord [1] [0x74] 0) := by decide

example : acks idCodec [1] [0x74] ex0
    [(7, .addRecord [0x74] [9] [8] [2] [1] []), (8, .deleteWriter [0x74] [2] [1]),
     (9, .addRecord [0x74] [9] [8] [2] [1] []), (9, .addWriter [0x74] [] [] [2] [1]),
     (9, .addRecord [0x74] [7] [7] [2] [1] [])] = [0, 1] := by decide

end Panacea.C01
