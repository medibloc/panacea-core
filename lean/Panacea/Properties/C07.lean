import Panacea.Generated.Facts
import Panacea.Lemmas.Bank
/-!
# C07 — Burn address is a sink: emptied every block, supply shrinks by exactly that

About the code after the repair of F11 (`BurnCoins` moves `SpendableCoins`, not `GetAllBalances`); the end-blocker as
found (a partial debit after a failed send, outside any cache branch, breaks bank's total supply invariant) is
modelled too (`burnEndBlockOld`), with the counterexample below.

Hypotheses: no duplicate denominations; the burn address is not the burn module account; locked amounts at the burn
address do not exceed its balances (bank's own invariant for vesting accounts).  Chain invariants other than bank's
supply identity are outside the model: the stream asserts them with `crisis.AssertInvariants` after every history.
-/
namespace Panacea.C07
open Panacea Bank

/-- **End-of-block burn.**  The burn address is emptied of what is spendable there, the supply shrinks by exactly that,
and nothing else moves (not even at the burn module account). -/
theorem burn_endblock_spec (s : State) (burn module : Bytes) (hne : burn ≠ module) (hnd : s.denoms.Nodup)
    (hlock : ∀ d ∈ s.denoms, s.locked burn d ≤ s.bal burn d) :
    let s' := burnEndBlock s burn module
    (∀ d ∈ s.denoms, spendable s' burn d = 0) ∧
    (∀ d ∈ s.denoms, s'.supply d = s.supply d - spendable s burn d) ∧
    (∀ a d, a ≠ burn → s'.bal a d = s.bal a d) ∧
    s'.locked = s.locked := by
  intro s'
  -- the debit succeeds, so the end-blocker is the three folds one after the other: put in their closed forms
  obtain ⟨s1, hsub⟩ := subUnlocked_spendable burn s.denoms s hnd hlock
  have hs' : s' = burnCoins (addCoins s1 module (coinsOf s burn s.denoms)) module (coinsOf s burn s.denoms) := by
    simp only [s', burnEndBlock, sendCoins, spendableCoins_eq, hsub]
    split
    · -- the early return for no coins is the general case: all three folds over `[]` are the identity
      rename_i he
      rw [he] at hsub ⊢
      cases hsub
      rfl
    · rfl
  rw [hs', burnCoins_eq, addCoins_eq, subUnlocked_eq burn _ s s1 hsub]
  refine ⟨fun d hd => ?_, fun d hd => ?_, fun a d ha => ?_, rfl⟩
  · -- after debiting `bal - locked`, what is left is `locked`
    simp only [spendable, amt_coinsOf s burn d hnd, hd, hne, if_true, if_false, Nat.add_zero, Nat.sub_zero,
      Nat.sub_sub_self (hlock d hd), Nat.sub_self]
  · simp only [amt_coinsOf s burn d hnd, hd, if_true]
  · -- the module account gets and loses the same amount
    simp only [ha, if_false, Nat.sub_zero, Nat.add_sub_cancel]

/-- The end-blocker can never fail or abort on the burn address's state: it is a total function that
returns a state (the send of spendable coins always succeeds, `subUnlocked_spendable`). -/
theorem burn_endblock_send_never_fails (s : State) (burn : Bytes) (hnd : s.denoms.Nodup)
    (hlock : ∀ d ∈ s.denoms, s.locked burn d ≤ s.bal burn d) :
    ∃ s1, subUnlocked s burn (spendableCoins s burn) = (s1, true) :=
  subUnlocked_spendable burn s.denoms s hnd hlock

def aaa : Bytes := [0x61]
def umed : Bytes := [0x75]
def burnA : Bytes := [1]
def modA : Bytes := [2]

/-- 10 unlocked `aaa` and 5 vesting-locked `umed` at the burn address -/
def witness : State :=
  { bal := fun a d => if a = burnA ∧ d = aaa then 10 else if a = burnA ∧ d = umed then 5 else 0,
    locked := fun a d => if a = burnA ∧ d = umed then 5 else 0,
    supply := fun d => if d = aaa then 10 else if d = umed then 5 else 0,
    denoms := [aaa, umed] }

/-- the old end-blocker debits the 10 `aaa` (so they are gone from the burn address) … -/
example : (burnEndBlockOld witness burnA modA).bal burnA aaa = 0 := by decide
/-- … credits them nowhere … -/
example : (burnEndBlockOld witness burnA modA).bal modA aaa = 0 := by decide
/-- … and does not reduce the supply: 10 `aaa` exist in the supply but in no account. -/
example : (burnEndBlockOld witness burnA modA).supply aaa = 10 := by decide
/-- the repaired end-blocker on the same state burns exactly the spendable 10 `aaa` -/
example : (burnEndBlock witness burnA modA).supply aaa = 0 ∧ (burnEndBlock witness burnA modA).bal burnA umed = 5 := by decide

/-- Over the regenerated table of end-blockers (`app.go`, `SetOrderEndBlockers`): the burn runs after every
end-blocker that can move coins (governance executes passed proposals and refunds deposits, staking completes
unbondings, group and feegrant prune and pay back), so whatever they send to the burn address is burned in the
same block. -/
theorem burn_after_coin_moving_endblockers :
    ∀ m ∈ ["crisis", "gov", "staking", "bank", "distribution", "feegrant", "group", "transfer", "ibc"],
      Generated.endBlockers.idxOf m < Generated.endBlockers.idxOf "burn" := by decide +kernel

/-- Only the custom modules' own (empty) end-blockers come after the burn. -/
theorem only_custom_modules_after_burn :
    Generated.endBlockers.drop (Generated.endBlockers.idxOf "burn" + 1) = ["pnft"] ∨
    Generated.endBlockers.drop (Generated.endBlockers.idxOf "burn" + 1) = [] := by decide +kernel

end Panacea.C07
