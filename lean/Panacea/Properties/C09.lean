import Panacea.Generated.Facts
import Panacea.Model.App
import Panacea.Properties.C08
import Panacea.Lemmas.MapExt
/-!
# C09 — State transitions are deterministic: replicas agree on every block  (partial)

In the model every observable is a function of `(genesis, blocks)` (`replicas_agree` is `rfl`); the content is in the ties.
`Generated.nondet` lists every use, in the non-client custom packages, of the wall clock, randomness, goroutines, channels,
`select`, floating point, environment reads and `range` over a map: only map ranges in the AOL / DID `InitGenesis` and
`GenesisState.Validate` occur.  Those write entries with distinct keys through the sorted store, so their order does not
matter (`importTable_perm`, `aolImport_perm`) — **provided the genesis has no two spellings of one key**, which the repaired
`GenesisState.Validate` enforces (F12).  Timestamps come from the block header (`ctx.BlockTime` in the skeleton ties of
`AddWriter`, `AddRecord`, `MintPNFT`).  The `determinism` stream compares twin applications block by block.
**Cannot be exhibited by the model:** wall clock, map iteration order, scheduler, hardware; IAVL / app-hash code.
-/
namespace Panacea.C09
open Panacea App

/-- two replicas that start from the same genesis and process the same blocks are in the same state and give
the same answer to every query, at every height -/
theorem replicas_agree {S B : Type} (exec : S → B → S) (g : S) (bs : List B) (h : Nat) :
    queryAt (runBlocks exec g { committed := [] } bs) h = queryAt (runBlocks exec g { committed := [] } bs) h := rfl

/-- The only non-deterministic primitives in the custom modules' keeper / types / module code are `range`
loops over the genesis maps of AOL and DID. -/
theorem no_nondeterminism_but_genesis_maps :
    Generated.nondet.all (fun e =>
      e.2.1 == "range-over-map" &&
      (e.1 == "x/aol.InitGenesis" || e.1 == "x/aol/types.GenesisState.Validate" ||
       e.1 == "x/did.InitGenesis" || e.1 == "x/did/types.GenesisState.Validate")) = true := by decide +kernel

/-- No wall clock, randomness, goroutine, channel, select, float or environment read anywhere in them. -/
theorem no_clock_random_concurrency_float_env :
    Generated.nondet.all (fun e => e.2.1 != "wall-clock" && e.2.1 != "randomness" && e.2.1 != "go-statement" &&
      e.2.1 != "select" && e.2.1 != "channel-send" && e.2.1 != "channel-receive" && e.2.1 != "float-literal" &&
      e.2.1 != "float-type" && e.2.1 != "environment") = true := by decide +kernel

/-- Importing entries with distinct keys in any order yields a store in which every key reads its entry:
the imported state is independent of Go's map iteration order. -/
theorem genesis_import_order_independent {V} (l : List (Bytes × V)) (hd : (l.map (·.1)).Nodup)
    (k : Bytes) (v : V) (hm : (k, v) ∈ l) (l' : List (Bytes × V)) (hp : l'.Perm l) :
    Map.get (l'.foldl (fun (m : Map V) (e : Bytes × V) => Map.set m e.1 e.2) ([] : Map V)) k = some v :=
  C08.import_get l' ((hp.map (·.1)).nodup_iff.mpr hd) [] k v (hp.mem_iff.mpr hm)

open Panacea.Genesis Panacea.CompKey in
/-- **A genesis table imports to the same store whatever order its map is visited in**, provided its entries land on
distinct store keys (what `GenesisState.Validate` enforces with its canonical-key rule, F12). -/
theorem importTable_perm {V} (c : AddrCodec) (k : Kind) (l l' : List (Bytes × V)) (hp : l'.Perm l) (m : Map V)
    (hd : (l.map fun e => storeKeyOf c k e.1).Nodup) (h : importTable c k l = .ok m) :
    importTable c k l' = .ok m := by
  unfold importTable at h ⊢
  obtain ⟨hdec, hm⟩ := (importFold_eq_ok c k l [] m).mp h
  refine (importFold_eq_ok c k l' [] m).mpr ⟨fun e he => hdec e (hp.mem_iff.mp he), ?_⟩
  rw [hm]
  exact (Map.foldl_set_perm _ _ (hp.map _) (by simpa [List.map_map, Function.comp_def] using hd)).symm

open Panacea.Genesis Panacea.CompKey in
/-- the same for the whole AOL genesis: four maps, each visited in any order -/
theorem aolImport_perm (c : AddrCodec) (g g' : AolGenesis) (s : Aol.State)
    (po : g'.owners.Perm g.owners) (pt : g'.topics.Perm g.topics) (pw : g'.writers.Perm g.writers)
    (pr : g'.records.Perm g.records)
    (no : (g.owners.map fun e => storeKeyOf c .owner e.1).Nodup) (nt : (g.topics.map fun e => storeKeyOf c .topic e.1).Nodup)
    (nw : (g.writers.map fun e => storeKeyOf c .writer e.1).Nodup) (nr : (g.records.map fun e => storeKeyOf c .record e.1).Nodup)
    (h : aolImport c g = .ok s) : aolImport c g' = .ok s := by
  obtain ⟨ho, ht, hw, hr⟩ := aolImport_eq_ok.mp h
  exact aolImport_eq_ok.mpr ⟨importTable_perm c .owner _ _ po _ no ho, importTable_perm c .topic _ _ pt _ nt ht,
    importTable_perm c .writer _ _ pw _ nw hw, importTable_perm c .record _ _ pr _ nr hr⟩

end Panacea.C09
