import Panacea.Lemmas.Tx
import Panacea.Lemmas.Aol
import Panacea.Properties.C15
/-!
# C02 — AOL write authorization: only owner-approved, currently listed writers append

Transaction layer (`Tx`): a transaction reaches the message handlers only if every `GetSigners` address of every
message contributed a valid signature (with the right account sequence); inside a `MsgExec` a message runs only if
its single signer is the grantee itself or has granted that message type to it.  Message layer (`Aol`): who
`GetSigners` is, and what each handler requires of the state.  Together: a record is appended only with the
authorisation of a currently listed writer, the writer list changes only with the owner's, a topic is created only
under its signer's own address.  Gov- and group-executed messages are outside the model (their signer is a module /
policy account).
(`Properties.C15` is imported for `C15.tx_atomic`, see `rejected_is_noop`.)
-/
namespace Panacea.C02
open Panacea CompKey Validate Tx Aol

theorem mem_zip_of_mem {α β} (l1 : List α) (l2 : List β) (a : α) (hl : l1.length = l2.length) (ha : a ∈ l1) :
    ∃ b, (a, b) ∈ l1.zip l2 := by
  rw [← List.map_fst_zip (l₁ := l1) (l₂ := l2) (by omega)] at ha
  obtain ⟨⟨_, b⟩, hp, rfl⟩ := List.mem_map.1 ha
  exact ⟨b, hp⟩

/-- **Every required signer signed.**  If a transaction got past the ante handler, then for every
address in the transaction's signer set there is a signature in the transaction that is by that address,
verifies, and carries that account's current sequence number. -/
theorem accepted_tx_signed_by_every_signer (e : Env) (s : Tx.State) (tx : Tx) (s' : Tx.State) (r : Result)
    (h : deliverTx e s tx = (s', r)) (hr : r = .ok ∨ r = .failedMsgs) :
    ∃ signers, txSigners e tx = .ok signers ∧
      ∀ a ∈ signers, ∃ sg ∈ tx.sigs, sg.signer = a ∧ sg.valid = true := by
  obtain ⟨signers, s1, hsig, hante, _⟩ := deliverTx_past_ante h hr
  match ante_ok hante with
  | .mk (slots := hlen) (signed := hall) .. =>
    refine ⟨signers, hsig, fun a ha => ?_⟩
    obtain ⟨sg, hm⟩ := mem_zip_of_mem signers tx.sigs a hlen.symm ha
    exact ⟨sg, (List.of_mem_zip hm).2, (hall (a, sg) hm).1, (hall (a, sg) hm).2.1⟩

/-- The signer set of a transaction contains the `GetSigners` addresses of each of its messages. -/
theorem msg_signers_subset_tx_signers (e : Env) (tx : Tx) (signers : List Bytes) (h : txSigners e tx = .ok signers)
    (m : AnyMsg) (hm : m ∈ tx.msgs) (l : List Bytes) (hl : msgSigners e m = .ok l) : ∀ a ∈ l, a ∈ signers := by
  obtain ⟨all, hgo, hsub⟩ := txSigners_ok h
  exact fun a ha => hsub a (mem_txSigners_go hl hgo hm a ha)

/-- Inside a `MsgExec`, every executed message has exactly one signer, and that signer is the grantee
itself or has granted this message type to the grantee. -/
theorem exec_requires_grant_or_self (e : Env) (grantee : Bytes) : ∀ (msgs : List Inner) (s s' : Tx.State),
    dispatch e grantee s msgs = .ok s' →
    ∀ m ∈ msgs, ∃ granter, innerSigners e m = .ok [granter] ∧
      (granter = grantee ∨ hasGrant s granter grantee m.typeTag = true) :=
  fun _ _ _ h => (dispatch_ok h).2

theorem mem_aolSigners_addRecord {dec : Bytes → Option Bytes} {t k v w o f wa : Bytes} {l : List Bytes}
    (hw : dec w = some wa) (hl : aolSigners dec (.addRecord t k v w o f) = .ok l) : wa ∈ l := by
  simp only [aolSigners, hw] at hl
  split at hl
  · split at hl
    · cases hl
      exact List.mem_cons_of_mem _ List.mem_cons_self
    · cases hl
  · cases hl
    exact List.mem_cons_self

/-- A record is appended only if the named writer is, at that moment, in the topic's writer list — and
that writer's address is among the message's `GetSigners` (so, by the transaction layer, it signed or
delegated). -/
theorem append_requires_listed_writer (c : AddrCodec) (now : Int) (s s' : Aol.State) (t k v w o f : Bytes) (r : Resp)
    (h : Aol.handle c now s (.addRecord t k v w o f) = .ok (s', r)) :
    ∃ oa wa wk, c.dec o = some oa ∧ c.dec w = some wa ∧ encode [oa, t, wa] = some wk ∧ s.writers.has wk = true ∧
      ∀ l, aolSigners c.dec (.addRecord t k v w o f) = .ok l → wa ∈ l := by
  cases effect_of_handle h with
  | addRecord ho hw _ _ hwk hhas _ => exact ⟨_, _, _, ho, hw, hwk, hhas, fun l hl => mem_aolSigners_addRecord hw hl⟩

/-- The writer list of a topic changes only through `AddWriter` / `DeleteWriter` messages, whose only
`GetSigners` address is the owner they name, and only entries *under that owner's address* change. -/
theorem writer_list_changes_only_by_owner (c : AddrCodec) (now : Int) (s s' : Aol.State) (m : Aol.Msg) (r : Resp)
    (h : Aol.handle c now s m = .ok (s', r)) (k : Bytes) (hk : s'.writers.get k ≠ s.writers.get k) :
    ∃ t w o oa wa, (m = .addWriter t [] [] w o ∨ (∃ mo d, m = .addWriter t mo d w o) ∨ m = .deleteWriter t w o) ∧
      c.dec o = some oa ∧ c.dec w = some wa ∧ encode [oa, t, wa] = some k ∧
      aolSigners c.dec m = .ok [oa] := by
  cases effect_of_handle h with
  | createTopic => exact absurd rfl hk
  | addRecord => exact absurd rfl hk
  | addWriter ho hw _ _ hwk _ =>
    have : k = _ := Decidable.byContradiction fun hne => hk (Map.get_set_ne hne)
    subst this
    exact ⟨_, _, _, _, _, .inr (.inl ⟨_, _, rfl⟩), ho, hw, hwk, by simp only [aolSigners, ho]⟩
  | deleteWriter ho hw _ hwk _ =>
    have : k = _ := Decidable.byContradiction fun hne => hk (Map.get_del_ne hne)
    subst this
    exact ⟨_, _, _, _, _, .inr (.inr rfl), ho, hw, hwk, by simp only [aolSigners, ho]⟩

/-- A topic is only ever created under its signer's own address. -/
theorem topic_created_under_signer (c : AddrCodec) (now : Int) (s s' : Aol.State) (t d o : Bytes) (r : Resp)
    (h : Aol.handle c now s (.createTopic t d o) = .ok (s', r)) :
    ∃ oa tk, aolSigners c.dec (.createTopic t d o) = .ok [oa] ∧ encode [oa, t] = some tk ∧
      s'.topics.get tk = some { description := d } ∧ ∀ k, k ≠ tk → s'.topics.get k = s.topics.get k := by
  cases effect_of_handle h with
  | createTopic ho htk _ _ =>
    exact ⟨_, _, by simp only [aolSigners, ho], htk, Map.get_set_eq, fun k hk => Map.get_set_ne hk⟩

/-- Is `(owner, topic, writer)` (decoded addresses) in the writer table? -/
def listed (s : Aol.State) (oa t wa : Bytes) : Bool :=
  match encode [oa, t, wa] with
  | some wk => s.writers.has wk
  | none => false

theorem listed_eq {s : Aol.State} {oa t wa wk : Bytes} (hwk : encode [oa, t, wa] = some wk) :
    listed s oa t wa = s.writers.has wk := by
  simp only [listed, hwk]

/-- First step of `delete_writer_immediate`: only a successful `AddWriter` of the very triple lists it. -/
theorem unlisted_step (c : AddrCodec) (st : Aol.State) (op : Int × Aol.Msg) (oa t wa : Bytes)
    (hst : listed st oa t wa = false)
    (hno : ∀ mo d w' o', op.2 = .addWriter t mo d w' o' → c.dec o' = some oa → c.dec w' = some wa → False) :
    listed (Aol.step c st op) oa t wa = false := by
  refine step_cases (P := (listed · oa t wa = false)) hst fun st' r' he => ?_
  cases hwk : encode [oa, t, wa] with
  | none => simp only [listed, hwk]
  | some wk =>
    rw [listed_eq hwk] at hst ⊢
    generalize hm : op.2 = m at he
    cases he with
    | createTopic => exact hst
    | addRecord => exact hst
    | deleteWriter => rw [Map.has_del, hst, Bool.and_false]
    | addWriter ho2 hw2 _ _ hwk2 _ =>
      rw [Map.has_set, hst, Bool.or_false, decide_eq_false_iff_not]
      intro he
      subst he
      obtain ⟨rfl, rfl, rfl⟩ := encode3_inj hwk hwk2
      exact hno _ _ _ _ hm ho2 hw2

/-- Second step: along a history, from any unlisted state (not only after a `DeleteWriter`). -/
theorem unlisted_run (c : AddrCodec) (s : Aol.State) (oa t wa : Bytes) (h0 : listed s oa t wa = false)
    (ops : List (Int × Aol.Msg))
    (hnoadd : ∀ op ∈ ops, ∀ mo d w' o', op.2 = .addWriter t mo d w' o' → c.dec o' = some oa → c.dec w' = some wa → False) :
    listed (Aol.run c s ops) oa t wa = false :=
  List.foldlRecOn (motive := (listed · oa t wa = false)) ops _ h0 fun st hst op hop =>
    unlisted_step c st op oa t wa hst (hnoadd op hop)

/-- Third step: the contrapositive of `append_requires_listed_writer`. -/
theorem addRecord_rejected_of_unlisted (c : AddrCodec) (s : Aol.State) (oa t wa : Bytes) (hl : listed s oa t wa = false)
    (now : Int) (k v w' o' f : Bytes) (ho : c.dec o' = some oa) (hw : c.dec w' = some wa) :
    (Aol.handle c now s (.addRecord t k v w' o' f)).isOk = false := by
  refine Aol.rejected fun s2 r2 he => ?_
  cases he with
  | addRecord ho3 hw3 _ _ hwk hhas _ =>
    cases ho.symm.trans ho3
    cases hw.symm.trans hw3
    rw [listed_eq hwk, hhas] at hl
    cases hl

/-- **Removal is immediate and lasting.**  After a successful `DeleteWriter(o, t, w)`, along any further
history in which no `AddWriter` for that same `(o, t, w)` succeeds, `w` is not listed and every
`AddRecord` to `(o, t)` naming `w` is rejected. -/
theorem delete_writer_immediate (c : AddrCodec) (now : Int) (s s1 : Aol.State) (t w o : Bytes) (r : Resp)
    (oa wa : Bytes) (ho : c.dec o = some oa) (hw : c.dec w = some wa)
    (h : Aol.handle c now s (.deleteWriter t w o) = .ok (s1, r)) (ops : List (Int × Aol.Msg))
    (hnoadd : ∀ op ∈ ops, ∀ mo d w' o', op.2 = .addWriter t mo d w' o' → c.dec o' = some oa → c.dec w' = some wa → False) :
    listed (Aol.run c s1 ops) oa t wa = false ∧
    ∀ now' k v w' o' f, c.dec o' = some oa → c.dec w' = some wa →
      (Aol.handle c now' (Aol.run c s1 ops) (.addRecord t k v w' o' f)).isOk = false := by
  have h0 : listed s1 oa t wa = false := by
    cases effect_of_handle h with
    | deleteWriter ho' hw' _ hwk _ =>
      cases ho.symm.trans ho'
      cases hw.symm.trans hw'
      rw [listed_eq hwk, Map.has_del, decide_eq_false (not_not_intro rfl), Bool.false_and]
  have hl := unlisted_run c s1 oa t wa h0 ops hnoadd
  exact ⟨hl, fun now' k v w' o' f => addRecord_rejected_of_unlisted c _ oa t wa hl now' k v w' o' f⟩

/-- Every rejected attempt leaves topics, writers and records exactly as they were: a rejected message
leaves the AOL state untouched (`Aol.step`), and a transaction in which *any* message fails leaves all
custom-module state untouched (`C15.tx_atomic`). -/
theorem rejected_is_noop (c : AddrCodec) (s : Aol.State) (op : Int × Aol.Msg)
    (h : (Aol.handle c op.1 s op.2).isOk = false) : Aol.step c s op = s :=
  Aol.step_of_not_ok h

end Panacea.C02
