import Panacea.Lemmas.Tx
/-!
# C15 — Custom-module transactions move no coins except the fee, charged to the payer

Over the transaction model `Tx.deliverTx` (stateless checks → ante → messages on a discardable branch).
Headline statements are for transactions without an explicit `AuthInfo.Fee.Payer` (`tx.payer = none`);
with one, the same theorems hold with that address as the payer (`feePayer`).
-/
namespace Panacea.C15
open Panacea CompKey Validate Tx

def bal (s : State) (a : Bytes) : Nat := ((s.accounts.get a).getD {}).balance

/-- A transaction rejected before or in the ante handler changes nothing, not even the fee or a sequence number. -/
theorem rejected_changes_nothing (e : Env) (s : State) (tx : Tx) (s' : State) (r : Result)
    (h : deliverTx e s tx = (s', r)) (hr : r = .rejectedStateless ∨ r = .rejectedAnte) : s' = s := by
  rcases hr with rfl | rfl
  all_goals
    cases deliverTx_cases h
    rfl

/-- **Atomicity.**  If any message of a transaction fails (at any position, inside or outside a `MsgExec`),
none of the transaction's messages has any effect on AOL, DID or PNFT state. -/
theorem tx_atomic (e : Env) (s : State) (tx : Tx) (s' : State) (r : Result)
    (h : deliverTx e s tx = (s', r)) (hr : r ≠ .ok) : s'.aol = s.aol ∧ s'.did = s.did ∧ s'.pnft = s.pnft := by
  cases deliverTx_cases h with
  | rejectedStateless => exact ⟨rfl, rfl, rfl⟩
  | rejectedAnte => exact ⟨rfl, rfl, rfl⟩
  | ok => exact absurd rfl hr
  | failedMsgs _ hante =>
    cases ante_ok hante
    exact ⟨rfl, rfl, rfl⟩

/-- **Only the fee moves, from the payer to the collector**, for every transaction that passes the ante handler,
whether or not its messages then succeed. -/
theorem only_fee_moves (e : Env) (s : State) (tx : Tx) (s' : State) (r : Result)
    (h : deliverTx e s tx = (s', r)) (hr : r = .ok ∨ r = .failedMsgs) :
    ∃ signers payer, txSigners e tx = .ok signers ∧ feePayer tx signers = some payer ∧
      s'.feeCollector = s.feeCollector + tx.fee ∧
      bal s' payer + tx.fee = bal s payer ∧
      ∀ a, a ≠ payer → bal s' a = bal s a := by
  obtain ⟨signers, s1, hsig, hante, hbank⟩ := deliverTx_past_ante h hr
  obtain @⟨payer, pacc, hfp, hget, hle⟩ := ante_ok hante
  have hb : ∀ a, bal s' a = (((s.accounts.set payer { pacc with balance := pacc.balance - tx.fee }).get a).getD {}).balance := by
    intro a
    unfold bal
    rw [show s'.accounts = _ from congrArg (·.accounts) hbank]
    exact bumpSeqs_balance _ _ _
  refine ⟨signers, payer, hsig, hfp, congrArg (·.feeCollector) hbank, ?_, fun a ha => ?_⟩
  · rw [hb, Map.get_set_eq]
    unfold bal
    simp [hget]
    omega
  · rw [hb, Map.get_set_ne ha]
    rfl

/-- The fee payer of a transaction without explicit payer is its first signer, i.e. the first
`GetSigners` address of its first message. -/
theorem fee_payer_is_first_signer (tx : Tx) (signers : List Bytes) (hp : tx.payer = none) :
    feePayer tx signers = signers.head? := by
  simp [feePayer, hp]

/-- For an add-record with a named fee payer, `GetSigners` lists the fee payer first and the writer second: in a
single-message transaction the fee is charged to the fee payer, never to the writer. -/
theorem addRecord_fee_payer_first (e : Env) (t k v w o f : Bytes) (wa fa : Bytes) (hf : f ≠ [])
    (hw : e.codec.dec w = some wa) (hfa : e.codec.dec f = some fa) :
    txSigners e { msgs := [.plain (.aol (.addRecord t k v w o f))], sigs := [], fee := 0 } =
      .ok (dedup [fa, wa]) ∧ (dedup [fa, wa]).head? = some fa := by
  constructor
  · simp [txSigners, txSigners.go, msgSigners, innerSigners, aolSigners, hw, hfa, hf]
  · simp [dedup]

/-- Custom-module messages themselves (once the ante handler is done) never touch any balance, the fee
collector or the authz grants. -/
theorem custom_msgs_preserve_bank (e : Env) (s s' : State) (msgs : List AnyMsg) (h : runMsgs e s msgs = .ok s') :
    s'.accounts = s.accounts ∧ s'.feeCollector = s.feeCollector ∧ s'.grants = s.grants := by
  simpa only [bank, State.mk.injEq, true_and] using runMsgs_bank h

end Panacea.C15
