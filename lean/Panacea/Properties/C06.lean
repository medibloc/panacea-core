import Panacea.Lemmas.Pnft
/-!
# C06 — PNFT authorization: only current owners act on denoms and tokens

Message level: "the actor named in the message is the current owner".  That the actor (the message's
only `GetSigners` address) has signed the transaction, or delegated through authz, is the transaction
layer (`Properties/C02`/`C15`).
-/
namespace Panacea.C06
open Panacea CompKey Validate Pnft

/-- A denom is updated, deleted or handed over, and tokens are minted in it, only by its *current* owner
(the owner string stored in the class), whoever created it. -/
theorem denom_ops_require_current_owner (c : AddrCodec) (now : Int) (s s' : State) :
    (∀ id n sy de u uh da updater, handle c now s (.updateDenom id n sy de u uh da updater) = .ok s' →
      ∃ d, s.classes.get id = some d ∧ updater = d.owner) ∧
    (∀ id remover, handle c now s (.deleteDenom id remover) = .ok s' →
      ∃ d, s.classes.get id = some d ∧ remover = d.owner) ∧
    (∀ id sender receiver, handle c now s (.transferDenom id sender receiver) = .ok s' →
      ∃ d, s.classes.get id = some d ∧ sender = d.owner) ∧
    (∀ dn id n de u uh da creator, handle c now s (.mintPNFT dn id n de u uh da creator) = .ok s' →
      ∃ d, s.classes.get dn = some d ∧ creator = d.owner) := by
  refine ⟨?_, ?_, ?_, ?_⟩
  · intro id n sy de u uh da updater h
    cases effect_of_handle h with | updateDenom hget hown => exact ⟨_, hget, hown⟩
  · intro id remover h
    cases effect_of_handle h with | deleteDenom hget hown => exact ⟨_, hget, hown⟩
  · intro id sender receiver h
    cases effect_of_handle h with | transferDenom hget hown => exact ⟨_, hget, hown⟩
  · intro dn id n de u uh da creator h
    cases effect_of_handle h with | mintPNFT _ _ hget hown => exact ⟨_, hget, hown.symm⟩

/-- A token is transferred or burned only by its current owner (the address stored in the owner table,
rendered as text). -/
theorem token_ops_require_current_owner (c : AddrCodec) (now : Int) (s s' : State) :
    (∀ dn id sender receiver, handle c now s (.transferPNFT dn id sender receiver) = .ok s' →
      (s.nfts.get (nftKey dn id)).isSome = true ∧ sender = ownerText c (getOwner s dn id)) ∧
    (∀ dn id burner, handle c now s (.burnPNFT dn id burner) = .ok s' →
      (s.nfts.get (nftKey dn id)).isSome = true ∧ burner = ownerText c (getOwner s dn id)) := by
  constructor
  · intro dn id sender receiver h
    cases effect_of_handle h with | transferPNFT hget hown => exact ⟨Option.isSome_iff_exists.mpr ⟨_, hget⟩, hown⟩
  · intro dn id burner h
    cases effect_of_handle h with | burnPNFT hget hown => exact ⟨Option.isSome_iff_exists.mpr ⟨_, hget⟩, hown⟩

/-- The stored owner of a denom changes only through a hand-over by the current owner (or the denom is
deleted by it). -/
theorem denom_owner_changes_only_by_transfer (c : AddrCodec) (now : Int) (s s' : State) (m : PnftMsg)
    (h : handle c now s m = .ok s') (id : Bytes) (d : Class) (hd : s.classes.get id = some d) :
    (∃ d', s'.classes.get id = some d' ∧ d'.owner = d.owner) ∨
    (∃ receiver, m = .transferDenom id d.owner receiver) ∨
    (m = .deleteDenom id d.owner) := by
  have other {id0 : Bytes} {d0 : Class} (he : id ≠ id0) :
      ∃ d', (s.classes.set id0 d0).get id = some d' ∧ d'.owner = d.owner :=
    ⟨d, (Map.get_set_ne he).trans hd, rfl⟩
  have same {id0 : Bytes} {d0 : Class} (hget : s.classes.get id0 = some d0) : id = id0 ∧ d = d0 ∨ id ≠ id0 := by
    by_cases he : id = id0
    · rw [← he, hd] at hget
      exact .inl ⟨he, Option.some.inj hget⟩
    · exact .inr he
  cases effect_of_handle h with
  | mintPNFT | transferPNFT | burnPNFT => exact .inl ⟨d, hd, rfl⟩
  | createDenom _ hnew =>
    refine .inl (other fun he => ?_)
    rw [he, hnew] at hd
    cases hd
  | updateDenom hget =>
    rcases same hget with ⟨rfl, rfl⟩ | he
    · exact .inl ⟨_, Map.get_set_eq, rfl⟩
    · exact .inl (other he)
  | deleteDenom hget hown =>
    rcases same hget with ⟨rfl, rfl⟩ | he
    · exact .inr (.inr (by rw [hown]))
    · exact .inl ⟨d, (Map.get_del_ne he).trans hd, rfl⟩
  | transferDenom hget hown =>
    rcases same hget with ⟨rfl, rfl⟩ | he
    · exact .inr (.inl ⟨_, by rw [hown]⟩)
    · exact .inl (other he)

/-- Whoever is not the stored owner of a denom is refused on it; `former_owner_rejected` is the instance after a
hand-over. -/
theorem non_owner_refused (c : AddrCodec) (now : Int) (s : State) (id who : Bytes) (d : Class)
    (hd : s.classes.get id = some d) (hne : who ≠ d.owner) :
    (∀ n sy de u uh da, (handle c now s (.updateDenom id n sy de u uh da who)).isOk = false) ∧
    (handle c now s (.deleteDenom id who)).isOk = false ∧
    (∀ r, (handle c now s (.transferDenom id who r)).isOk = false) ∧
    (∀ i n de u uh da, (handle c now s (.mintPNFT id i n de u uh da who)).isOk = false) := by
  have key : ¬∃ d2, s.classes.get id = some d2 ∧ who = d2.owner := by
    rintro ⟨d2, h1, h2⟩
    cases hd.symm.trans h1
    exact hne h2
  have own := denom_ops_require_current_owner c now s
  exact ⟨fun _ _ _ _ _ _ => Outcome.isOk_eq_false fun s2 hx => key ((own s2).1 _ _ _ _ _ _ _ _ hx),
    Outcome.isOk_eq_false fun s2 hx => key ((own s2).2.1 _ _ hx),
    fun _ => Outcome.isOk_eq_false fun s2 hx => key ((own s2).2.2.1 _ _ _ hx),
    fun _ _ _ _ _ _ => Outcome.isOk_eq_false fun s2 hx => key ((own s2).2.2.2 _ _ _ _ _ _ _ _ hx)⟩

/-- A former owner is refused: after a successful hand-over to a *different* address, the previous owner's
update / delete / transfer / mint on that denom is rejected (until it is handed back). -/
theorem former_owner_rejected (c : AddrCodec) (now now' : Int) (s s' : State) (id sender receiver : Bytes)
    (hne : receiver ≠ sender) (h : handle c now s (.transferDenom id sender receiver) = .ok s') :
    (∀ n sy de u uh da, (handle c now' s' (.updateDenom id n sy de u uh da sender)).isOk = false) ∧
    (handle c now' s' (.deleteDenom id sender)).isOk = false ∧
    (∀ r, (handle c now' s' (.transferDenom id sender r)).isOk = false) ∧
    (∀ i n de u uh da, (handle c now' s' (.mintPNFT id i n de u uh da sender)).isOk = false) := by
  cases effect_of_handle h with
  | transferDenom => exact non_owner_refused c now' _ id sender _ Map.get_set_eq hne.symm

/-- Every refused request leaves all denoms, tokens and ownerships unchanged. -/
theorem refused_is_noop (c : AddrCodec) (s : State) (op : Int × PnftMsg)
    (h : (handle c op.1 s op.2).isOk = false) : step c s op = s :=
  step_of_not_ok h

end Panacea.C06
