import Panacea.Model.Keystore
import Panacea.Generated.Facts
/-!
# C20 — Concurrent readers see committed snapshots; shared code is race-free  (partial)

**Proved here (key store, all thread counts, all schedules):** with the lock usage of the repaired key
store (no method acquires the mutex while holding it), no reachable state of the writer-preferring
RWMutex model is a deadlock.  The unrepaired `LoadByAddress` (read lock held across `Load`, which
read-locks again) deadlocks in a three-step schedule — `decide`-checked witness, reproduced on the real
code by the `kslock` stream's watchdog before the repair (F5).

**Proved in `Properties/C10`:** queries are evaluated on the committed state of a height.
**Known finding F16 (dependency code):** a *listing* query at the latest height can see the next height while that
height is being committed (iavl fast-node index); modelled below and reproduced on the real application by the `conc`
stream.  **Cannot be exhibited by any model here:** data races in Go memory and baseapp's actual snapshotting; the
`conc` stream runs query goroutines against a per-height oracle while blocks execute (support, not proof).
-/
namespace Panacea.C20
open Panacea Keystore

/-- per-thread consistency: what it holds is what its program is about to release -/
def Good (t : Thread) : Prop :=
  (t.heldR = 0 ∧ t.heldW = false ∧ wb t.prog = true ∧ (t.waitingW = true → ∃ r, t.prog = .lock :: r)) ∨
  (t.heldR = 1 ∧ t.heldW = false ∧ t.waitingW = false ∧ ∃ r, t.prog = .runlock :: r ∧ wb r = true) ∨
  (t.heldR = 0 ∧ t.heldW = true ∧ t.waitingW = false ∧ ∃ r, t.prog = .unlock :: r ∧ wb r = true)

theorem wb_cases {p : List LockOp} (h : wb p = true) :
    p = [] ∨ (∃ r, p = .rlock :: .runlock :: r ∧ wb r = true) ∨ (∃ r, p = .lock :: .unlock :: r ∧ wb r = true) := by
  match p, h with
  | [], _ => exact .inl rfl
  | .rlock :: .runlock :: r, h => exact .inr (.inl ⟨r, rfl, h⟩)
  | .lock :: .unlock :: r, h => exact .inr (.inr ⟨r, rfl, h⟩)

theorem wb_not_runlock {r : List LockOp} : wb (.runlock :: r) = false := by simp [wb]
theorem wb_not_unlock {r : List LockOp} : wb (.unlock :: r) = false := by simp [wb]

/-- `Good` is an invariant: kept by a step of the thread itself (`good_step`), hence by a step of the system
(`good_preserved`), and it holds at the start of well-bracketed programs (`wb_threads_good`). -/
theorem good_step (s : Sys) (t t' : Thread) (hg : Good t) (h : stepOf s t = some t') : Good t' := by
  unfold stepOf at h
  rcases hg with ⟨h1, h2, h3, h4⟩ | ⟨h1, h2, h3, r, hp, hw⟩ | ⟨h1, h2, h3, r, hp, hw⟩
  · -- holding nothing: the next operation acquires (and the rest releases it first) or starts waiting
    rcases wb_cases h3 with hp | ⟨r, hp, hw⟩ | ⟨r, hp, hw⟩
    · simp only [hp] at h
      cases h
    · have hwait : t.waitingW = false := by
        cases hwt : t.waitingW with
        | false => rfl
        | true =>
          obtain ⟨r2, hr2⟩ := h4 hwt
          rw [hp] at hr2
          cases hr2
      simp only [hp] at h
      split at h
      · cases h
        exact .inr (.inl ⟨by simp [h1], h2, hwait, r, rfl, hw⟩)
      · cases h
    · simp only [hp] at h
      split at h
      · cases h
        exact .inr (.inr ⟨h1, rfl, rfl, r, rfl, hw⟩)
      · split at h
        · cases h
        · cases h
          exact .inl ⟨h1, h2, hp ▸ h3, fun _ => ⟨_, rfl⟩⟩
  · simp only [hp] at h
    cases h
    exact .inl ⟨by simp [h1], h2, hw, fun hwt => by simp [h3] at hwt⟩
  · simp only [hp] at h
    cases h
    exact .inl ⟨h1, rfl, hw, fun hwt => by simp [h3] at hwt⟩

/-- **Progress**: as long as some thread is not finished, some thread can step. -/
theorem no_deadlock (s : Sys) (hg : ∀ t ∈ s, Good t) : deadlocked s = false := by
  unfold deadlocked
  by_cases hen : enabled s = true
  · rw [hen, Bool.not_true, Bool.and_false]
  -- Suppose nobody can step.  Then nobody is about to release, so nobody holds anything; so nobody is at a `lock`;
  -- so nobody waits, and nobody is at an `rlock`: every program is finished.
  have hnone : ∀ t ∈ s, stepOf s t = none := fun t ht =>
    Option.not_isSome_iff_eq_none.mp fun h => hen (List.any_eq_true.mpr ⟨t, ht, h⟩)
  have hidle : ∀ t ∈ s, t.heldR = 0 ∧ t.heldW = false ∧ wb t.prog = true ∧
      (t.waitingW = true → ∃ r, t.prog = .lock :: r) := by
    intro t ht
    have hn := hnone t ht
    rcases hg t ht with h | ⟨_, _, _, r, hp, _⟩ | ⟨_, _, _, r, hp, _⟩
    · exact h
    · simp [stepOf, hp] at hn
    · simp [stepOf, hp] at hn
  have hfree : free s = true :=
    List.all_eq_true.mpr fun t ht => by simp [(hidle t ht).1, (hidle t ht).2.1]
  have hnolock : ∀ t ∈ s, ∀ r, t.prog ≠ .lock :: r := by
    intro t ht r hp
    have hn := hnone t ht
    simp [stepOf, hp, hfree] at hn
  have hnw : noWriter s = true := by
    refine List.all_eq_true.mpr fun t ht => ?_
    cases hw : t.waitingW with
    | false => simp [(hidle t ht).2.1]
    | true =>
      obtain ⟨r, hr⟩ := (hidle t ht).2.2.2 hw
      exact absurd hr (hnolock t ht r)
  have hdone : done s = true := by
    refine List.all_eq_true.mpr fun t ht => ?_
    rcases wb_cases (hidle t ht).2.2.1 with hp | ⟨r, hp, _⟩ | ⟨r, hp, _⟩
    · rw [hp]
      rfl
    · have hn := hnone t ht
      simp [stepOf, hp, hnw] at hn
    · exact absurd hp (hnolock t ht _)
  rw [hdone, Bool.not_true, Bool.false_and]

theorem good_preserved (s s' : Sys) (i : Nat) (hg : ∀ t ∈ s, Good t) (h : stepThread s i = some s') :
    ∀ t ∈ s', Good t := by
  unfold stepThread at h
  cases hi : s[i]? with
  | none => simp [hi] at h
  | some t =>
    simp only [hi] at h
    cases hs : stepOf s t with
    | none => simp [hs] at h
    | some t' =>
      simp [hs] at h
      subst h
      intro u hu
      rcases List.mem_or_eq_of_mem_set hu with hu | rfl
      · exact hg u hu
      · exact good_step s t u (hg t (List.mem_of_getElem? hi)) hs

theorem wb_threads_good (progs : List (List LockOp)) (h : ∀ p ∈ progs, wb p = true) :
    ∀ t ∈ progs.map (fun p => ({ prog := p } : Thread)), Good t := by
  intro t ht
  obtain ⟨p, hp, rfl⟩ := List.mem_map.mp ht
  left
  exact ⟨rfl, rfl, h p hp, fun hw => by simp at hw⟩

/-- **No schedule of any number of threads that run well-bracketed, non-nesting lock programs can deadlock.** -/
theorem wb_never_deadlocks (progs : List (List LockOp)) (h : ∀ p ∈ progs, wb p = true) (sched : List Nat) :
    deadlocked (runSched (progs.map fun p => ({ prog := p } : Thread)) sched) = false := by
  have key : ∀ (sched : List Nat) (st : Sys), (∀ t ∈ st, Good t) → ∀ t ∈ runSched st sched, Good t := by
    intro sched st hg
    induction sched generalizing st with
    | nil => exact hg
    | cons i rest ih =>
      rw [runSched]
      cases hs : stepThread st i with
      | none => exact ih st hg
      | some st' => exact ih st' (good_preserved st st' i hg hs)
  exact no_deadlock _ (key sched _ (wb_threads_good progs h))

/-! `Generated.lockPaths` lists, for every exported `KeyStore` method, the mutex operations on **every control
path** (early returns, both branches of every `if`, loops zero times / once, calls to other methods of the
type expanded path by path, deferred unlocks at the end). -/

def parseOp : String → Option LockOp
  | "Lock" => some .lock
  | "Unlock" => some .unlock
  | "RLock" => some .rlock
  | "RUnlock" => some .runlock
  | _ => none

/-- all lock programs the source can run (`none` if a token is not a mutex operation) -/
def sourcePrograms : Option (List (List LockOp)) :=
  (Generated.lockPaths.flatMap (·.2)).mapM fun p => p.mapM parseOp

/-- **Every control path of every exported key-store method is well-bracketed and never acquires the mutex
while holding it.** -/
theorem source_paths_well_bracketed : ∃ ps, sourcePrograms = some ps ∧ ∀ p ∈ ps, wb p = true := by
  refine ⟨_, rfl, ?_⟩
  decide

/-- the methods that exist, and that the table is not empty (non-vacuity of the statement above) -/
theorem source_methods : Generated.lockPaths.map (·.1) = ["Load", "LoadByAddress", "Save"] ∧
    progLoadByAddress ∈ (sourcePrograms.getD []) ∧ progSave ∈ (sourcePrograms.getD []) := by decide +kernel

/-- **No schedule of any number of concurrent key-store calls — each following any control path of any
exported method — can deadlock.** -/
theorem keystore_never_deadlocks (ps progs : List (List LockOp)) (hps : sourcePrograms = some ps)
    (h : ∀ p ∈ progs, p ∈ ps) (sched : List Nat) :
    deadlocked (runSched (progs.map fun p => ({ prog := p } : Thread)) sched) = false := by
  obtain ⟨ps', hps', hwb⟩ := source_paths_well_bracketed
  rw [hps] at hps'
  cases hps'
  exact wb_never_deadlocks progs (fun p hp => hwb p (h p hp)) sched

/-- a path that returns while still holding the read lock (what a misplaced `RUnlock` after an early
`return` produces) is not well-bracketed, and one such thread plus a saver is a deadlock -/
example : wb [.rlock] = false := by decide
example : (((stepThread [{ prog := [.rlock] }, { prog := progSave }] 0).bind fun s => stepThread s 1).map deadlocked) = some true := by
  decide

/-- F5, the unrepaired `LoadByAddress`: a loader takes its first read lock, a saver starts waiting for the write lock,
the loader's second `RLock` is blocked behind the waiting writer, who waits for the loader: nobody can move. -/
def f5Start : Sys := [{ prog := progLoadByAddressOld }, { prog := progSave }]
def f5After : Option Sys := (stepThread f5Start 0).bind fun s => stepThread s 1

example : f5After.map deadlocked = some true := by decide
/-- the same schedule with the repaired method is not a deadlock -/
example : ((stepThread [{ prog := progLoadByAddress }, { prog := progSave }] 0).bind fun s => stepThread s 1).map deadlocked
    = some false := by decide

/-! Known finding F16: listing queries and IAVL's fast-node index.  The part of the store that is logic: committed
snapshots by version, the *fast index* (a copy of the latest state, shared by all readers) and the latest version
number.  `SaveVersion` of iavl v0.20.1 writes the new
nodes and the index first and advances the latest version afterwards — two steps a concurrent reader can fall
between.  An iterator over the tree of version `v` reads the index iff `v` is (still) the latest version. -/

structure Tree (S : Type) where
  versions : List S        -- snapshot of version `i+1` at index `i`
  fast : S                 -- fast-node index: the latest written state
  latest : Nat             -- what `ndb.getLatestVersion` answers

/-- `SaveVersion`, first half: nodes of the new version and the fast index are written -/
def saveWrite {S} (t : Tree S) (s : S) : Tree S := { t with versions := t.versions ++ [s], fast := s }
/-- `SaveVersion`, second half: the latest version advances -/
def saveBump {S} (t : Tree S) : Tree S := { t with latest := t.latest + 1 }

/-- what an iterator created on the immutable tree of version `v` reads -/
def iterAt {S} (useFast : Bool) (t : Tree S) (v : Nat) : Option S :=
  if useFast && v == t.latest then some t.fast else t.versions[v - 1]?

/-- **Without the fast index a listing at a committed height is unaffected by any later commit step.** -/
theorem listing_stable_without_fast_index {S} (t : Tree S) (s : S) (v : Nat) (hv : v - 1 < t.versions.length) :
    iterAt false (saveWrite t s) v = iterAt false t v ∧ iterAt false (saveBump t) v = iterAt false t v := by
  simp [iterAt, saveWrite, saveBump, List.getElem?_append_left hv]

/-- **With it (iavl v0.20.1 as used by this application), a listing asked for the latest height `H` between
the two halves of the commit of `H+1` returns the state of `H+1`.** -/
theorem listing_at_latest_sees_next_height {S} (t : Tree S) (s : S) :
    iterAt true (saveWrite t s) t.latest = some s := by
  simp [iterAt, saveWrite]

/-- concrete instance: versions 1, 2 committed (states 10, 20), commit of version 3 (state 30) half done:
a listing "at height 2" answers 30, and after the commit has finished it answers 20 again -/
example : iterAt true (saveWrite { versions := [10, 20], fast := 20, latest := 2 } 30) 2 = some 30 ∧
    iterAt true (saveBump (saveWrite { versions := [10, 20], fast := 20, latest := 2 } 30)) 2 = some 20 := by decide

end Panacea.C20
