import Panacea.Lemmas.PnftOwner
import Panacea.Lemmas.CompKey
/-!
# C12 — PNFT tokens: unique, immutable, isolated per denom, consistently indexed

The theorems are about the code after the repairs of F7 (`DenomsByOwner` filters by owner), F8 (`DeleteDenom`
refuses a denom that still has tokens) and F9 (identifiers with `0x00` are rejected).  The unrepaired
code violates all three (monitor `mon.c12`).

The existence and listing theorems are stated for states with the counting invariant `PInv` and the owner
invariant `OInv` (`Lemmas/PnftInv.lean`, `Lemmas/PnftOwner.lean`); both hold of the empty store and are preserved by
every message while fewer than `2^64` tokens exist (`pinv_reachable`, `invariants_reachable`).
-/
namespace Panacea.C12
open Panacea CompKey Validate Pnft

/-- Identifiers the validators admit contain no `0x00`. -/
theorem admitted_ids_have_no_nul (c : AddrCodec) (now : Int) (s s' : State) :
    (∀ id n sy de u uh da cr, handle c now s (.createDenom id n sy de u uh da cr) = .ok s' → (0x00 : UInt8) ∉ id) ∧
    (∀ dn id n de u uh da cr, handle c now s (.mintPNFT dn id n de u uh da cr) = .ok s' →
      (0x00 : UInt8) ∉ dn ∧ (0x00 : UInt8) ∉ id) := by
  constructor
  · intro id n sy de u uh da cr h
    cases effect_of_handle h with | createDenom hid => exact hid
  · intro dn id n de u uh da cr h
    cases effect_of_handle h with | mintPNFT hdn hid => exact ⟨hdn, hid⟩

/-- Distinct `(denom, token)` pairs never alias one another in the store (on NUL-free identifiers). -/
theorem pairs_do_not_alias (d d' i i' : Bytes) (hd : (0x00 : UInt8) ∉ d) (hd' : (0x00 : UInt8) ∉ d')
    (h : nftKey d i = nftKey d' i') : d = d' ∧ i = i' := nftKey_inj hd hd' h

/-- Within a denom a token id exists at most once: minting an existing id is refused. -/
theorem mint_existing_refused (c : AddrCodec) (now : Int) (s : State) (dn id n de u uh da cr : Bytes) (d : Class)
    (hd : s.classes.get dn = some d) (hx : hasNFT s d.id id = true) :
    (handle c now s (.mintPNFT dn id n de u uh da cr)).isOk = false := by
  refine rejected fun s' h => ?_
  cases h with
  | mintPNFT _ _ hget _ _ hnew =>
    cases hd.symm.trans hget
    rw [hasNFT, Map.has_false_iff.mpr hnew] at hx
    cases hx

/-- **Immutability.**  Whatever message is accepted, a stored token entry is afterwards either exactly
what it was or gone (burned): name, description, URI, hash, data, creator and creation time never change. -/
theorem token_metadata_immutable (c : AddrCodec) (now : Int) (s s' : State) (m : PnftMsg)
    (h : handle c now s m = .ok s') (k : Bytes) (n : Nft) (hk : s.nfts.get k = some n) :
    s'.nfts.get k = some n ∨ s'.nfts.get k = none := by
  cases effect_of_handle h with
  | createDenom | updateDenom | deleteDenom | transferDenom | transferPNFT => exact .inl hk
  | mintPNFT _ _ _ _ _ hnew =>
    refine .inl ((Map.get_set_ne fun he => ?_).trans hk)
    rw [he, hnew] at hk
    cases hk
  | @burnPNFT dn id0 =>
    by_cases he : k = nftKey dn id0
    · exact .inr (he ▸ Map.get_del_eq)
    · exact .inl ((Map.get_del_ne he).trans hk)

/-- `DenomsByOwner` returns exactly the denoms whose stored owner is the requested address. -/
theorem denomsByOwner_exact (s : State) (owner : Bytes) (d : Class) :
    d ∈ queryDenomsByOwner s owner ↔ (∃ k, (k, d) ∈ s.classes) ∧ d.owner = owner := by
  unfold queryDenomsByOwner
  simp only [List.mem_map, List.mem_filter, decide_eq_true_eq]
  constructor
  · rintro ⟨⟨k, d'⟩, ⟨hm, ho⟩, rfl⟩
    exact ⟨⟨k, hm⟩, ho⟩
  · rintro ⟨⟨k, hm⟩, ho⟩
    exact ⟨(k, d), ⟨hm, ho⟩, rfl⟩

/-- A denom that still has tokens (non-zero supply) cannot be deleted. -/
theorem delete_nonempty_refused (c : AddrCodec) (now : Int) (s : State) (id rm : Bytes) (h0 : getSupply s id ≠ 0) :
    (handle c now s (.deleteDenom id rm)).isOk = false := by
  refine rejected fun s' h => ?_
  cases h with | deleteDenom _ _ hsup => exact h0 hsup

/-- `PInv` and `OInv` hold of the empty store (`pinv_genesis`, `oinv_genesis`) and along every history that fits the
`uint64` supply counter (`pinv_reachable`, `invariants_reachable`). -/
theorem pinv_genesis : PInv {} := by
  refine ⟨Map.sorted_nil, Map.sorted_nil, ?_, ?_, fun _ _ => rfl, ?_⟩
  all_goals
    intros
    contradiction

theorem pinv_reachable (c : AddrCodec) (s : State) (B : Nat) (ops : List (Int × PnftMsg))
    (hi : PInv s) (hb : Pnft.Below s B) (hlt : B + ops.length < 2 ^ 64) : PInv (run c s ops) :=
  (inv_run (J := fun _ => True) (fun _ _ _ => trivial) ops hi trivial hb hlt).1

/-- **Every existing token belongs to an existing denom**, in every reachable state. -/
theorem token_belongs_to_existing_denom (s : State) (hi : PInv s) (k : Bytes) (n : Nft)
    (h : s.nfts.get k = some n) : hasClass s n.classId = true ∧ k = nftKey n.classId n.id :=
  ⟨hi.tokenClass k n h, (hi.tokenKey k n h).1⟩

/-- the single-item view: a token that `Query/PNFT` returns lives in an existing denom -/
theorem queried_token_has_denom (c : AddrCodec) (s : State) (hi : PInv s) (d i : Bytes) (p : Pnft.Pnft)
    (h : queryPNFT c s d i = some p) : hasClass s p.denomId = true := by
  obtain ⟨n, hg, rfl⟩ := getPNFT_eq_some h
  exact hi.tokenClass _ n hg

/-- **`PNFTs` listing exactness**: for a denom identifier the validators admit, the listing iterates over
exactly the stored tokens whose class is that denom. -/
theorem pnfts_listing_exact (s : State) (hi : PInv s) (d : Bytes) (hd : NoNul d) (n : Nft) :
    (∃ i, (i, n) ∈ s.nfts.prefixView (d ++ [0x00])) ↔ (∃ k, s.nfts.get k = some n ∧ n.classId = d) := by
  constructor
  · rintro ⟨i, hm⟩
    have hg := (Map.mem_prefixView_iff_get hi.sortedN).mp hm
    obtain ⟨hk, hcn, -⟩ := hi.tokenKey _ n hg
    exact ⟨_, hg, ((listPrefix_iff hd hcn).mp (hk ▸ List.prefix_append _ _)).symm⟩
  · rintro ⟨k, hg, rfl⟩
    obtain ⟨rfl, -, -⟩ := hi.tokenKey k n hg
    exact ⟨n.id, (Map.mem_prefixView_iff_get hi.sortedN).mpr (nftKey_eq_append _ _ ▸ hg)⟩

/-- The `PNFTs` listing of a denom has as many entries as the denom's total supply says. -/
theorem pnfts_listing_length (c : AddrCodec) (s : State) (hi : PInv s) (d : Bytes) (hd : NoNul d) :
    (queryPNFTs c s d).length = getSupply s d := by
  unfold queryPNFTs
  rw [List.length_map, Map.prefixView_length, hi.supplyCount d hd]

/-- non-vacuity: a denom, two mints, a burn and a refused `deleteDenom`; the supply is the one token left -/
example : getSupply (run { enc := id, dec := fun s => if s.length = 20 then some s else none } {}
    [(1, .createDenom [0x64] [0x6e] [0x73] [] [] [] [] (List.replicate 20 1)),
     (2, .mintPNFT [0x64] [0x31] [0x6e] [] [] [] [] (List.replicate 20 1)),
     (3, .mintPNFT [0x64] [0x32] [0x6e] [] [] [] [] (List.replicate 20 1)),
     (4, .burnPNFT [0x64] [0x31] (List.replicate 20 1)),
     (5, .deleteDenom [0x64] (List.replicate 20 1))]) [0x64] = 1 := by decide

theorem oinv_genesis : OInv {} := by
  refine ⟨Map.sorted_nil, Map.sorted_nil, ?_, ?_, ?_, ?_⟩
  all_goals
    intros
    contradiction

/-- `DecShort` is all of `Lawful` that the owner index needs (the length byte of its keys); this is the bridge. -/
theorem lawful_decShort (c : AddrCodec) (hc : c.Lawful) : DecShort c :=
  fun t a h => Nat.lt_succ_of_le (addrOk_iff.mp (hc.dec_ok t a h)).2

theorem invariants_reachable (c : AddrCodec) (hc : DecShort c) (s : State) (B : Nat) (ops : List (Int × PnftMsg))
    (hp : PInv s) (hi : OInv s) (hb : Pnft.Below s B) (hlt : B + ops.length < 2 ^ 64) :
    PInv (run c s ops) ∧ OInv (run c s ops) :=
  have h := inv_run (fun hp hi => oinv_step hc hp hi) ops hp hi hb hlt
  ⟨h.1, h.2.1⟩

/-- **`PNFTsByDenomOwner` listing exactness**: exactly the tokens of the denom that the address currently owns,
with the same content as the single-item view (`toPnft` is what `Query/PNFT` returns for that token). -/
theorem pnftsByDenomOwner_listing_exact (c : AddrCodec) (hc : DecShort c) (s : State) (hp : PInv s) (hi : OInv s)
    (d owner o : Bytes) (hd : NoNul d) (hdec : c.dec owner = some o) (l : List Pnft.Pnft)
    (h : queryPNFTsByDenomOwner c s d owner = .ok l) (p : Pnft.Pnft) :
    p ∈ l ↔ ∃ i n, s.nfts.get (nftKey d i) = some n ∧ s.owners.get (nftKey d i) = some o ∧ p = toPnft c s d i n := by
  simp only [queryPNFTsByDenomOwner, hdec, Outcome.ok.injEq] at h
  subst h
  simp only [List.mem_filterMap]
  constructor
  · rintro ⟨⟨i, u⟩, he, hge⟩
    -- the index entry names its owner table entry; the key determines owner, denom and token
    obtain ⟨o', d', i', hk, hd', -, hgo⟩ := hi.idxWF (ownerIdxKey o d i)
      (Option.isSome_iff_exists.mpr ⟨u, (Map.mem_prefixView_iff_get hi.sortedI).mp he⟩)
    obtain ⟨rfl, rfl, rfl⟩ := ownerIdxKey_inj (hc _ _ hdec) (hi.tokenOfOwner _ _ hgo).2 hd hd' hk
    obtain ⟨n, hn, rfl⟩ := getPNFT_eq_some hge
    exact ⟨i, n, hn, hgo, rfl⟩
  · rintro ⟨i, n, hgn, hgo, rfl⟩
    obtain ⟨u, hu⟩ := Option.isSome_iff_exists.mp (hi.idxOfOwner d i o hd (hp.noNul_of_get hd hgn) hgo)
    exact ⟨(i, u), (Map.mem_prefixView_iff_get hi.sortedI).mpr hu, Option.map_eq_some_iff.mpr ⟨n, hgn, rfl⟩⟩

/-- every token has exactly one owner entry, and the single-item view reports it -/
theorem token_has_owner (s : State) (hi : OInv s) (k : Bytes) (n : Nft) (h : s.nfts.get k = some n) :
    ∃ o, s.owners.get k = some o ∧ o.length < 256 := by
  obtain ⟨o, ho⟩ := hi.ownerOfToken k n h
  exact ⟨o, ho, (hi.tokenOfOwner k o ho).2⟩

example : nftKey [0x61] [0x62, 0x00, 0x63] = nftKey [0x61, 0x00, 0x62] [0x63] := by decide  -- why NUL had to go

end Panacea.C12
