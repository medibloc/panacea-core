import Panacea.Lemmas.DidHist
/-!
# C11 — A DID resolves to a document about itself; proofs are bound to one DID

These theorems are about the code *after* the repair of F6 (`ValidateBasic` of Create/Update requires
`document.id = did`).  On the unrepaired code the first theorem is false: the correspondence monitor
`mon.c11.ids` exhibited stored active documents whose id differs from their key.
-/
namespace Panacea.C11
open Panacea Did

/-- Whenever the registry holds an active document under `d`, that document's id is `d` — in every state
reachable from a well-formed one by any history. -/
theorem active_doc_id_eq_key (da : Bytes → Option Bytes) (cr : Crypto) (s : State) (B : Nat) (ms : List Msg)
    (hw : WF s) (hb : ∀ did d, s.get did = some d → d.seq ≤ B) (hB : B + ms.length < 2 ^ 64)
    (did : Bytes) (cur : DocWithSeq) (doc : Doc)
    (hq : queryDID (run da cr s ms) did = .ok cur) (hdoc : cur.doc = some doc) : doc.id = did := by
  obtain ⟨rfl, stored, hst, hne⟩ := (queryDID_holds ..).of_eq_ok hq
  cases hdoc.symm.trans hst
  obtain ⟨e, hg, hd⟩ := get_of_getDoc_doc hdoc
  exact (wf_run ms hw).selfId did e doc hg hd hne

/-- Every accepted create or update writes an entry whose document id is the DID it is written under:
nobody can occupy an identifier with a document about another one. -/
theorem write_is_about_its_own_did (da : Bytes → Option Bytes) (cr : Crypto) (s s' : State) (did : Bytes)
    (doc : Option Doc) (db vmID sig fr : Bytes) :
    (deliver da cr s (.create did doc db vmID sig fr) = .ok s' → ∃ d, doc = some d ∧ d.id = did) ∧
    (deliver da cr s (.update did doc db vmID sig fr) = .ok s' → ∃ d, doc = some d ∧ d.id = did) := by
  constructor <;> intro h
  · cases accepted h with
    | create _ _ hid => exact ⟨_, rfl, hid⟩
  · cases accepted h with
    | update _ _ hid => exact ⟨_, rfl, hid⟩

/-- **Proofs are bound to one DID.**  Given that the document encoding is injective (`marshal`, the
protobuf encoding, is a parameter; `hm` says the messages carry `marshal document`), a proof accepted for
a write under `did₁` cannot be accepted for a write under a different `did₂`: the two acceptances would
need the same signature to verify over different sign bytes — or the DIDs are equal. -/
theorem proof_bound_to_did (marshal : Doc → Bytes) (hinj : ∀ a b, marshal a = marshal b → a = b)
    (da : Bytes → Option Bytes) (cr : Crypto) (s1 s1' s2 s2' : State) (did1 did2 : Bytes)
    (d1 d2 : Doc) (vmID1 vmID2 sig fr1 fr2 : Bytes)
    (h1 : deliver da cr s1 (.update did1 (some d1) (marshal d1) vmID1 sig fr1) = .ok s1')
    (h2 : deliver da cr s2 (.update did2 (some d2) (marshal d2) vmID2 sig fr2) = .ok s2') :
    did1 = did2 ∨ ∃ pk pk' m m', cr.verify pk m sig = true ∧ cr.verify pk' m' sig = true ∧ m ≠ m' := by
  cases accepted h1 with
  | update _ _ hid1 hp1 =>
    cases accepted h2 with
    | update _ _ hid2 hp2 =>
      refine Decidable.or_iff_not_imp_left.mpr fun hd => hp1.two_messages hp2 fun he _ => hd ?_
      rw [← hid1, ← hid2, hinj _ _ he]

/-- The same for deactivation, with no assumption about any encoding: the signed content is the DID
itself (`DIDDocument{Id: did}`), whose encoding is modelled concretely. -/
theorem deactivation_proof_bound_to_did (da : Bytes → Option Bytes) (cr : Crypto) (s1 s1' s2 s2' : State)
    (did1 did2 vmID1 vmID2 sig fr1 fr2 : Bytes)
    (h1 : deliver da cr s1 (.deactivate did1 vmID1 sig fr1) = .ok s1')
    (h2 : deliver da cr s2 (.deactivate did2 vmID2 sig fr2) = .ok s2') :
    did1 = did2 ∨ ∃ pk pk' m m', cr.verify pk m sig = true ∧ cr.verify pk' m' sig = true ∧ m ≠ m' := by
  cases accepted h1 with
  | deactivate _ hp1 =>
    cases accepted h2 with
    | deactivate _ hp2 =>
      exact Decidable.or_iff_not_imp_left.mpr fun hd =>
        hp1.two_messages hp2 fun he _ => hd (marshalIdOnly_injective he)

end Panacea.C11
