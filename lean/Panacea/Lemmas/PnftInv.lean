import Panacea.Lemmas.Pnft
import Panacea.Lemmas.Fold
/-! The counting invariant `PInv` of the PNFT store: the stored total supply of a denom is the number of token
entries under its listing prefix, entries are keyed by their own identifiers, every token's class exists.  An accepted
message preserves it as long as the `uint64` supply counter cannot overflow (fewer than `2^64` tokens). -/
namespace Panacea.Pnft
open Panacea CompKey Validate Map

structure PInv (s : State) : Prop where
  sortedN : s.nfts.Sorted
  sortedC : s.classes.Sorted
  classKey : ∀ k d, s.classes.get k = some d → d.id = k ∧ NoNul k
  tokenKey : ∀ k n, s.nfts.get k = some n → k = nftKey n.classId n.id ∧ NoNul n.classId ∧ NoNul n.id
  supplyCount : ∀ d, NoNul d → getSupply s d = countP (d ++ [0x00]) s.nfts.keys
  tokenClass : ∀ k n, s.nfts.get k = some n → s.classes.has n.classId = true

/-- the number of token entries: the budget `foldl_budget` spends, one per message -/
def Below (s : State) (B : Nat) : Prop := s.nfts.length ≤ B

theorem has_iff_isSome {V} (m : Map V) (k : Bytes) : m.has k = (m.get k).isSome := rfl

theorem PInv.noNul_of_hasClass {s : State} (hi : PInv s) {d : Bytes} (h : hasClass s d = true) : NoNul d := by
  obtain ⟨cl, hcl⟩ := has_true_iff.mp h
  exact (hi.classKey d cl hcl).2

theorem PInv.noNul_of_get {s : State} (hi : PInv s) {d i : Bytes} {n : Nft} (hd : NoNul d)
    (h : s.nfts.get (nftKey d i) = some n) : NoNul i := by
  obtain ⟨hk, hcn, hin⟩ := hi.tokenKey _ n h
  exact (nftKey_inj hd hcn hk).2 ▸ hin

theorem PInv.supply_le {s : State} {B : Nat} (hi : PInv s) (hb : Below s B) {d : Bytes} (hd : NoNul d) :
    getSupply s d ≤ B := by
  rw [hi.supplyCount d hd]
  exact Nat.le_trans (countP_le_length _ _) (Nat.le_trans (Nat.le_of_eq (List.length_map _)) hb)

theorem pinv_setClass {s : State} (hi : PInv s) {id : Bytes} {d' : Class} (hid : d'.id = id) (hn : NoNul id) :
    PInv { s with classes := s.classes.set id d' } := by
  refine ⟨hi.sortedN, sorted_set hi.sortedC, get_set_all hi.classKey ⟨hid, hn⟩, hi.tokenKey,
    hi.supplyCount, ?_⟩
  intro k t hg
  rw [has_set, hi.tokenClass k t hg, Bool.or_true]

theorem pinv_delClass {s : State} (hi : PInv s) {id : Bytes} {d : Class} (hget : s.classes.get id = some d)
    (h0 : getSupply s id = 0) : PInv { s with classes := s.classes.del id } := by
  refine ⟨hi.sortedN, sorted_del hi.sortedC, get_del_all hi.classKey, hi.tokenKey, hi.supplyCount, ?_⟩
  -- no token of the deleted denom exists: its supply, which is the number of its tokens, is 0
  intro k t hg
  rw [has_del, hi.tokenClass k t hg, Bool.and_true, decide_eq_true_iff]
  intro he
  have hidn := (hi.classKey id d hget).2
  have := countP_eq_zero_iff.mp ((hi.supplyCount id hidn).symm.trans h0) k
    (has_iff_mem_keys.mp (has_true_iff.mpr ⟨t, hg⟩))
  rw [(hi.tokenKey k t hg).1, he, isPrefix_listPrefix hidn hidn, decide_eq_true rfl] at this
  cases this

theorem PInv.owners_irrelevant {s : State} (hi : PInv s) (ow : Map Bytes) (ix : Map Unit) :
    PInv { s with owners := ow, ownerIdx := ix } :=
  ⟨hi.sortedN, hi.sortedC, hi.classKey, hi.tokenKey, hi.supplyCount, hi.tokenClass⟩

theorem pinv_mint {s : State} {B : Nat} (hi : PInv s) (hb : Below s B) (hB : B + 1 < 2 ^ 64) {n : Nft}
    (hdn : NoNul n.classId) (hid : NoNul n.id) (hcls : s.classes.has n.classId = true)
    (hnew : s.nfts.get (nftKey n.classId n.id) = none) :
    PInv { s with nfts := s.nfts.set (nftKey n.classId n.id) n,
                  supply := s.supply.set n.classId (wrap64 (getSupply s n.classId + 1)) } := by
  refine ⟨sorted_set hi.sortedN, hi.sortedC, hi.classKey, get_set_all hi.tokenKey ⟨rfl, hdn, hid⟩, ?_,
    get_set_all hi.tokenClass hcls⟩
  intro d' hd'
  show ((s.supply.set n.classId _).get d').getD 0 = countP _ (s.nfts.set _ n).keys
  rw [count_set_fresh _ hi.sortedN hnew, isPrefix_listPrefix hd' hdn, ← hi.supplyCount d' hd']
  by_cases he : d' = n.classId
  · rw [he, get_set_eq, Option.getD_some, if_pos (decide_eq_true rfl)]
    exact Nat.mod_eq_of_lt (Nat.lt_of_le_of_lt (Nat.succ_le_succ (hi.supply_le hb hdn)) hB)
  · rw [get_set_ne he, if_neg (mt of_decide_eq_true he)]
    rfl

theorem pinv_burn {s : State} {B : Nat} (hi : PInv s) (hb : Below s B) (hB : B < 2 ^ 64) {dn id : Bytes} {n : Nft}
    (hdn : NoNul dn) (hget : s.nfts.get (nftKey dn id) = some n) :
    PInv { s with nfts := s.nfts.del (nftKey dn id), supply := s.supply.set dn (decU64 (getSupply s dn)) } := by
  refine ⟨sorted_del hi.sortedN, hi.sortedC, hi.classKey, get_del_all hi.tokenKey, ?_,
    get_del_all hi.tokenClass⟩
  intro d' hd'
  have hcd := count_del_present (d' ++ [0x00]) hi.sortedN
    (has_true_iff.mpr ⟨n, hget⟩)
  rw [isPrefix_listPrefix hd' hdn, ← hi.supplyCount d' hd'] at hcd
  show ((s.supply.set dn _).get d').getD 0 = _
  by_cases he : d' = dn
  · rw [he, if_pos (decide_eq_true rfl)] at hcd
    rw [he, get_set_eq, Option.getD_some, ← hcd]
    exact decU64_succ (hcd ▸ Nat.lt_of_le_of_lt (hi.supply_le hb hdn) hB)
  · rw [if_neg (mt of_decide_eq_true he)] at hcd
    rw [get_set_ne he]
    exact hcd.symm

theorem pinv_step {c : AddrCodec} {now : Int} {s s' : State} {m : PnftMsg} {B : Nat}
    (hi : PInv s) (hb : Below s B) (hB : B + 1 < 2 ^ 64) (h : Effect c now s m s') :
    PInv s' ∧ Below s' (B + 1) := by
  have hb' : Below s (B + 1) := Nat.le_succ_of_le hb
  cases h with
  | createDenom hid hnew => exact ⟨pinv_setClass hi rfl hid, hb'⟩
  | updateDenom hget hown | transferDenom hget hown =>
    exact ⟨pinv_setClass hi (hi.classKey _ _ hget).1 (hi.classKey _ _ hget).2, hb'⟩
  | deleteDenom hget hown hsup => exact ⟨pinv_delClass hi hget hsup, hb'⟩
  | mintPNFT hdn hid hget hown hdec hnew =>
    rw [(hi.classKey _ _ hget).1] at hnew ⊢
    exact ⟨(pinv_mint (n := newNft ..) hi hb hB hdn hid (has_true_iff.mpr ⟨_, hget⟩) hnew).owners_irrelevant _ _,
      Nat.le_trans (length_set_le _ _ _) (Nat.succ_le_succ hb)⟩
  | transferPNFT hget hown hdec hcls => exact ⟨hi.owners_irrelevant _ _, hb'⟩
  | burnPNFT hget hown hcls =>
    exact ⟨(pinv_burn hi hb (Nat.lt_of_succ_lt hB) (hi.noNul_of_hasClass hcls) hget).owners_irrelevant _ _,
      Nat.le_trans (del_sublist _ _).length_le hb'⟩

/-- `J` is a companion invariant whose preservation needs `PInv` (`OInv`; `True` for `PInv` alone). -/
theorem inv_run {c : AddrCodec} {J : State → Prop}
    (hJ : ∀ {now s m s'}, PInv s → J s → Effect c now s m s' → J s') (ops : List (Int × PnftMsg)) :
    ∀ {s : State} {B : Nat}, PInv s → J s → Below s B → B + ops.length < 2 ^ 64 →
      PInv (run c s ops) ∧ J (run c s ops) ∧ Below (run c s ops) (B + ops.length) := by
  intro s B hp hj hb hB
  refine foldl_budget (fun B s => PInv s ∧ J s ∧ Below s B) (step c) (2 ^ 64) (fun B s op hB ⟨hp, hj, hb⟩ => ?_)
    ops B s hB ⟨hp, hj, hb⟩
  refine step_cases (P := fun s => PInv s ∧ J s ∧ Below s (B + 1)) ⟨hp, hj, Nat.le_succ_of_le hb⟩ fun s' h => ?_
  exact ⟨(pinv_step hp hb hB h).1, hJ hp hj h, (pinv_step hp hb hB h).2⟩

end Panacea.Pnft
