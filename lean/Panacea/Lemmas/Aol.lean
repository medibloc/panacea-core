import Panacea.Model.Aol
import Panacea.Lemmas.KV
import Panacea.Lemmas.CompKey
import Panacea.Lemmas.Outcome
/-! `Effect`: what an accepted message finds in the state and what it writes, one constructor per message.  `handle`
is opened for it and for `handle_isPanic_false` only: two walks where x/did and x/pnft have one `…_holds`, because
here a panic depends on the lengths of key components, not on the outcome of a validator. -/
namespace Panacea.Aol
open Panacea CompKey

def Msg.topic : Msg → Bytes
  | .createTopic t _ _ => t
  | .addWriter t _ _ _ _ => t
  | .deleteWriter t _ _ => t
  | .addRecord t _ _ _ _ _ => t

/-- The stored topic (the zero value when absent, as `GetTopic` returns). -/
def topicAt (s : State) (tk : Bytes) : Topic := (s.topics.get tk).getD {}

theorem topicAt_of_get {s : State} {tk : Bytes} {topic : Topic} (h : s.topics.get tk = some topic) :
    topicAt s tk = topic := by simp [topicAt, h]

theorem topicAt_rec {s : State} {tk : Bytes} {P : Topic → Prop} (h0 : P {})
    (h1 : ∀ topic, s.topics.get tk = some topic → P topic) : P (topicAt s tk) :=
  Map.getD_cases (fun _ => h0) h1

theorem topicAt_set {s s' : State} {tk : Bytes} {new : Topic} (ht : s'.topics = s.topics.set tk new) (k : Bytes) :
    topicAt s' k = if k = tk then new else topicAt s k := by
  unfold topicAt
  rw [ht]
  by_cases hk : k = tk
  · rw [if_pos hk, hk, Map.get_set_eq]
    rfl
  · rw [if_neg hk, Map.get_set_ne hk]

theorem decAddr_eq_ok {c : AddrCodec} {s a : Bytes} {what : String} : decAddr c s what = .ok a ↔ c.dec s = some a := by
  unfold decAddr
  cases c.dec s <;> simp

theorem mustEncode_eq_ok {comps : List Bytes} {b : Bytes} : mustEncode comps = .ok b ↔ encode comps = some b := by
  unfold mustEncode
  cases encode comps <;> simp

theorem encodeQ_eq_ok {comps : List Bytes} {b : Bytes} : encodeQ comps = .ok b ↔ encode comps = some b := by
  unfold encodeQ
  cases encode comps <;> simp

theorem decAddr_isPanic (c : AddrCodec) (s : Bytes) (what : String) : (decAddr c s what).isPanic = false := by
  unfold decAddr
  cases c.dec s <;> rfl

theorem encodeQ_isPanic (comps : List Bytes) : (encodeQ comps).isPanic = false := by
  unfold encodeQ
  cases encode comps <;> rfl

theorem mustEncode_isPanic {comps : List Bytes} :
    (mustEncode comps).isPanic = false ↔ ∀ v ∈ comps, v.length ≤ 255 := by
  rw [← encode_isSome_iff]
  unfold mustEncode
  cases encode comps <;> simp [Outcome.isPanic]

theorem queryRecord_eq {c : AddrCodec} {s : State} {oa tn o rk : Bytes} {n : Nat} (ho : c.dec oa = some o)
    (hrk : encode [o, tn, be64 n] = some rk) :
    queryRecord c s oa tn n = match s.records.get rk with
      | some r => .ok r
      | none => .err "not-found" := by
  simp only [queryRecord, bind, Outcome.bind, decAddr, ho, encodeQ, hrk]
  cases s.records.get rk <;> rfl

theorem queryRecord_eq_ok {c : AddrCodec} {s : State} {oa tn : Bytes} {n : Nat} {rec : Record} :
    queryRecord c s oa tn n = .ok rec ↔
      ∃ o rk, c.dec oa = some o ∧ encode [o, tn, be64 n] = some rk ∧ s.records.get rk = some rec := by
  simp only [queryRecord, Outcome.bind_eq_ok, decAddr_eq_ok, encodeQ_eq_ok]
  constructor
  · intro ⟨o, ho, rk, hrk, h⟩
    split at h <;> cases h
    exact ⟨o, rk, ho, hrk, ‹_›⟩
  · intro ⟨o, rk, ho, hrk, hg⟩
    exact ⟨o, ho, rk, hrk, by rw [hg]⟩

theorem queryTopics_ok {c : AddrCodec} {s : State} {oa : Bytes} {req : Paginate.PageRequest} {names : List Bytes}
    {page : Paginate.PageResponse} (h : queryTopics c s oa req = .ok (names, page)) :
    ∃ o pfx items, c.dec oa = some o ∧ encode [o] = some pfx ∧
      Paginate.paginate (s.topics.prefixView pfx) req = .ok (items, page) ∧
      decodeListed .topic pfx 1 items = .ok names := by
  simp only [queryTopics, Outcome.bind_eq_ok, decAddr_eq_ok] at h
  obtain ⟨o, ho, h⟩ := h
  -- the listing prefix encodes the first component only; the `[]` stands for the topic name, which is not encoded
  cases hp : partialEncode [o, []] 1 with
  | none => simp [hp] at h
  | some pfx =>
    simp only [hp, Outcome.bind_eq_ok, Outcome.pure_eq, Outcome.ok.injEq, Prod.mk.injEq] at h
    obtain ⟨⟨items, pg⟩, hpg, ns, hdl, rfl, rfl⟩ := h
    exact ⟨o, pfx, items, ho, by simpa [partialEncode] using hp, hpg, hdl⟩

theorem queryWriters_ok {c : AddrCodec} {s : State} {oa t : Bytes} {req : Paginate.PageRequest} {ws : List Bytes}
    {page : Paginate.PageResponse} (h : queryWriters c s oa t req = .ok (ws, page)) :
    ∃ o pfx items, c.dec oa = some o ∧ encode [o, t] = some pfx ∧
      Paginate.paginate (s.writers.prefixView pfx) req = .ok (items, page) ∧
      decodeListed .writer pfx 2 items = .ok ws := by
  simp only [queryWriters, Outcome.bind_eq_ok, decAddr_eq_ok] at h
  obtain ⟨o, ho, h⟩ := h
  -- two components are encoded, the `[]` is a dummy
  cases hp : partialEncode [o, t, []] 2 with
  | none => simp [hp] at h
  | some pfx =>
    simp only [hp, Outcome.bind_eq_ok, Outcome.pure_eq, Outcome.ok.injEq, Prod.mk.injEq] at h
    obtain ⟨⟨items, pg⟩, hpg, ns, hdl, rfl, rfl⟩ := h
    exact ⟨o, pfx, items, ho, by simpa [partialEncode] using hp, hpg, hdl⟩

theorem queryRecord_isOk {c : AddrCodec} {s : State} {oa tn o rk : Bytes} {n : Nat} (ho : c.dec oa = some o)
    (hrk : encode [o, tn, be64 n] = some rk) : (queryRecord c s oa tn n).isOk = s.records.has rk := by
  rw [queryRecord_eq ho hrk, Map.has]
  cases s.records.get rk <;> rfl

theorem decodeListed_cons_ok {α} {k : Kind} {pfx : Bytes} {idx : Nat} {e : Bytes × α} {rest : List (Bytes × α)}
    {names : List Bytes} (h : decodeListed k pfx idx (e :: rest) = .ok names) :
    ∃ comps x r, decodeTyped k (pfx ++ e.1) = .ok comps ∧ comps[idx]? = some x ∧
      decodeListed k pfx idx rest = .ok r ∧ names = x :: r := by
  rw [decodeListed] at h
  repeat' split at h
  all_goals cases h
  exact ⟨_, _, _, ‹_›, ‹_›, ‹_›, rfl⟩

inductive Effect (c : AddrCodec) (now : Int) (s : State) : Msg → State → Resp → Prop
  | createTopic {tn d oa o tk okey : Bytes} (ho : c.dec oa = some o) (htk : encode [o, tn] = some tk)
      (hnew : s.topics.get tk = none) (hok : encode [o] = some okey) :
      Effect c now s (.createTopic tn d oa)
        { s with
          owners := s.owners.set okey { totalTopics := wrap64 (((s.owners.get okey).getD {}).totalTopics + 1) },
          topics := s.topics.set tk { description := d } } .empty
  | addWriter {tn mo d wa oa o w tk wk : Bytes} {topic : Topic} (ho : c.dec oa = some o) (hw : c.dec wa = some w)
      (htk : encode [o, tn] = some tk) (hget : s.topics.get tk = some topic)
      (hwk : encode [o, tn, w] = some wk) (hnew : s.writers.get wk = none) :
      Effect c now s (.addWriter tn mo d wa oa)
        { s with
          topics := s.topics.set tk { topic with totalWriters := wrap64 (topic.totalWriters + 1) },
          writers := s.writers.set wk { moniker := mo, description := d, nanoTimestamp := now } } .empty
  -- no `hget`: `DeleteWriter` decrements `total_writers` without checking that the topic exists (`topicAt`)
  | deleteWriter {tn wa oa o w tk wk : Bytes} (ho : c.dec oa = some o) (hw : c.dec wa = some w)
      (htk : encode [o, tn] = some tk) (hwk : encode [o, tn, w] = some wk) (hlisted : s.writers.has wk = true) :
      Effect c now s (.deleteWriter tn wa oa)
        { s with
          topics := s.topics.set tk { topicAt s tk with totalWriters := decU64 (topicAt s tk).totalWriters },
          writers := s.writers.del wk } .empty
  | addRecord {tn key value wa oa fp o w tk wk rk : Bytes} {topic : Topic} (ho : c.dec oa = some o)
      (hw : c.dec wa = some w) (htk : encode [o, tn] = some tk) (hget : s.topics.get tk = some topic)
      (hwk : encode [o, tn, w] = some wk) (hlisted : s.writers.has wk = true)
      (hrk : encode [o, tn, be64 topic.totalRecords] = some rk) :
      Effect c now s (.addRecord tn key value wa oa fp)
        { s with
          topics := s.topics.set tk { topic with totalRecords := wrap64 (topic.totalRecords + 1) },
          records := s.records.set rk { key := key, value := value, nanoTimestamp := now, writerAddress := wa } }
        (.addRecord oa tn topic.totalRecords)

theorem effect_of_handle {c : AddrCodec} {now : Int} {s s' : State} {m : Msg} {r : Resp}
    (h : handle c now s m = .ok (s', r)) : Effect c now s m s' r := by
  cases m <;>
    simp only [handle, Outcome.bind_eq_ok, decAddr_eq_ok, topicKey, ownerKey, writerKey, recordKey, mustEncode_eq_ok,
      Outcome.ite_err_eq_ok, Bool.not_eq_true, Bool.not_eq_false', Outcome.pure_eq, Outcome.ok.injEq,
      Prod.mk.injEq] at h
  · obtain ⟨o, ho, tk, htk, hnew, okey, hok, rfl, rfl⟩ := h
    exact .createTopic ho htk (Map.has_false_iff.mp hnew) hok
  · obtain ⟨o, ho, w, hw, tk, htk, hhas, wk, hwk, hnew, rfl, rfl⟩ := h
    obtain ⟨topic, hget⟩ := Map.has_true_iff.mp hhas
    rw [hget]
    exact .addWriter ho hw htk hget hwk (Map.has_false_iff.mp hnew)
  · obtain ⟨o, ho, w, hw, wk, hwk, hlisted, tk, htk, rfl, rfl⟩ := h
    exact .deleteWriter ho hw htk hwk hlisted
  · obtain ⟨o, ho, w, hw, tk, htk, hhas, wk, hwk, hlisted, rk, hrk, rfl, rfl⟩ := h
    obtain ⟨topic, hget⟩ := Map.has_true_iff.mp hhas
    rw [hget] at hrk ⊢
    exact .addRecord ho hw htk hget hwk hlisted hrk

/-- The effect is about `op.1`, `op.2`: destructure `op` before `cases` on it, or prove the step as a lemma about
`Effect` with free `now`, `m`. -/
theorem step_cases {c : AddrCodec} {s : State} {op : Int × Msg} {P : State → Prop} (h0 : P s)
    (h1 : ∀ s' r, Effect c op.1 s op.2 s' r → P s') : P (step c s op) := by
  unfold step
  split
  · next s' r h => exact h1 s' r (effect_of_handle h)
  · exact h0

theorem rejected {c : AddrCodec} {now : Int} {s : State} {m : Msg} (h : ∀ s' r, ¬ Effect c now s m s' r) :
    (handle c now s m).isOk = false :=
  Outcome.isOk_eq_false fun p hp => h p.1 p.2 (effect_of_handle hp)

theorem step_of_not_ok {c : AddrCodec} {s : State} {op : Int × Msg} (h : (handle c op.1 s op.2).isOk = false) :
    step c s op = s := by
  unfold step
  split
  · next hd =>
    rw [hd] at h
    cases h
  · rfl

/-- `handle` panics only in `MustEncode`: only if a decoded address or the topic name exceeds 255 bytes. -/
theorem handle_isPanic_false {c : AddrCodec} {now : Int} {s : State} {m : Msg}
    (hdec : ∀ x a, c.dec x = some a → addrOk a = true) (ht : m.topic.length ≤ 255) :
    (handle c now s m).isPanic = false := by
  have dec {x : Bytes} {w : String} {f : Bytes → Outcome (State × Resp)}
      (hf : ∀ a, a.length ≤ 255 → (f a).isPanic = false) : (decAddr c x w >>= f).isPanic = false :=
    Outcome.isPanic_bind (decAddr_isPanic ..) fun a h => hf a (addrOk_iff.mp (hdec _ _ (decAddr_eq_ok.mp h))).2
  have enc {comps : List Bytes} {f : Bytes → Outcome (State × Resp)} (h : ∀ v ∈ comps, v.length ≤ 255)
      (hf : ∀ k, (f k).isPanic = false) : (mustEncode comps >>= f).isPanic = false :=
    Outcome.isPanic_bind (mustEncode_isPanic.mpr h) fun k _ => hf k
  have guard {p : Prop} [Decidable p] {e : String} {x : Outcome (State × Resp)} (hx : x.isPanic = false) :
      (if p then .err e else x).isPanic = false :=
    Outcome.isPanic_ite (fun _ => rfl) fun _ => hx
  have two {a b : Bytes} (ha : a.length ≤ 255) (hb : b.length ≤ 255) : ∀ v ∈ [a, b], v.length ≤ 255 :=
    List.forall_mem_cons.mpr ⟨ha, List.forall_mem_cons.mpr ⟨hb, nofun⟩⟩
  have three {a b d : Bytes} (ha : a.length ≤ 255) (hb : b.length ≤ 255) (hd : d.length ≤ 255) :
      ∀ v ∈ [a, b, d], v.length ≤ 255 :=
    List.forall_mem_cons.mpr ⟨ha, two hb hd⟩
  cases m with
  | createTopic t d o =>
    exact dec fun _ ho => enc (two ho ht) fun _ => guard (enc (List.forall_mem_cons.mpr ⟨ho, nofun⟩) fun _ => rfl)
  | addWriter t mo d w o =>
    exact dec fun _ ho => dec fun _ hw => enc (two ho ht) fun _ => guard (enc (three ho ht hw) fun _ => guard rfl)
  | deleteWriter t w o =>
    exact dec fun _ ho => dec fun _ hw => enc (three ho ht hw) fun _ => guard (enc (two ho ht) fun _ => rfl)
  | addRecord t k v w o f =>
    exact dec fun _ ho => dec fun _ hw => enc (two ho ht) fun _ => guard (enc (three ho ht hw) fun _ => guard
      (enc (three ho ht (by rw [be64_length]; decide)) fun _ => rfl))

end Panacea.Aol
