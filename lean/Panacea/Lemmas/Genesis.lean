import Panacea.Model.Genesis
import Panacea.Lemmas.Outcome
/-! An imported entry is written under `(decodeFromString c k s).bind encode`, the store key of its key string `s`; where that
is `none` (`MustDecodeFromString` or `MustEncode` fails) the import panics and skips the rest.  So an import is the fold of
`set` over the entries under their store keys, or a panic.  (`C09.storeKeyOf` is defined here because `importFold_eq_ok` is
stated with it.) -/
namespace Panacea.C09
open Panacea

/-- the store key a genesis key string is imported under (`[]` for a string the import panics on) -/
def storeKeyOf (c : CompKey.AddrCodec) (k : CompKey.Kind) (s : Bytes) : Bytes :=
  ((CompKey.decodeFromString c k s).bind CompKey.encode).getD []

end Panacea.C09

namespace Panacea.Genesis
open Panacea CompKey
variable {V : Type} (c : AddrCodec) (k : Kind)

theorem importStep_some (acc : Map V) (e : Bytes × V) {key : Bytes}
    (h : (decodeFromString c k e.1).bind encode = some key) : importStep c k (.ok acc) e = .ok (acc.set key e.2) := by
  unfold importStep
  cases hd : decodeFromString c k e.1 with
  | none =>
    rw [hd] at h
    cases h
  | some comps =>
    rw [hd, Option.bind_some] at h
    simp only [h]

theorem importStep_none (acc : Map V) (e : Bytes × V) (h : (decodeFromString c k e.1).bind encode = none) :
    ∃ p, importStep c k (.ok acc) e = .panic p := by
  unfold importStep
  cases hd : decodeFromString c k e.1 with
  | none => exact ⟨_, rfl⟩
  | some comps =>
    rw [hd, Option.bind_some] at h
    simp only [h]
    exact ⟨_, rfl⟩

theorem importFold_panic (p : String) (l : List (Bytes × V)) : l.foldl (importStep c k) (.panic p) = .panic p := by
  induction l with
  | nil => rfl
  | cons e l ih => exact ih

theorem importFold_eq_ok (l : List (Bytes × V)) (acc m : Map V) :
    l.foldl (importStep c k) (.ok acc) = .ok m ↔
      (∀ e ∈ l, ((decodeFromString c k e.1).bind encode).isSome = true) ∧
      m = (l.map fun e => (C09.storeKeyOf c k e.1, e.2)).foldl (fun (mm : Map V) e => mm.set e.1 e.2) acc := by
  induction l generalizing acc with
  | nil => exact ⟨fun h => ⟨nofun, by cases h; rfl⟩, fun ⟨_, h⟩ => h ▸ rfl⟩
  | cons e l ih =>
    rw [List.foldl_cons, List.forall_mem_cons, List.map_cons, List.foldl_cons]
    cases hb : (decodeFromString c k e.1).bind encode with
    | some key =>
      rw [importStep_some c k acc e hb, ih]
      simp only [C09.storeKeyOf, hb, Option.isSome_some, Option.getD_some, true_and]
    | none =>
      obtain ⟨p, hp⟩ := importStep_none c k acc e hb
      rw [hp, importFold_panic]
      exact ⟨nofun, fun ⟨⟨h, _⟩, _⟩ => (Bool.false_ne_true h).elim⟩

theorem exportTable_cons (e : Bytes × V) (m : Map V) :
    exportTable c k (e :: m) = (exportTable c k m).bind fun rest =>
      match decodeTyped k e.1 with
      | .ok comps => .ok ((encodeToString c k comps, e.2) :: rest)
      | _ => .panic "MustDecode" := rfl

theorem aolImport_eq_ok {c : AddrCodec} {g : AolGenesis} {s : Aol.State} :
    aolImport c g = .ok s ↔ importTable c .owner g.owners = .ok s.owners ∧ importTable c .topic g.topics = .ok s.topics ∧
      importTable c .writer g.writers = .ok s.writers ∧ importTable c .record g.records = .ok s.records := by
  unfold aolImport
  simp only [Outcome.bind_eq_ok]
  constructor
  · rintro ⟨o, ho, t, ht, w, hw, r, hr, h⟩
    cases h
    exact ⟨ho, ht, hw, hr⟩
  · rintro ⟨ho, ht, hw, hr⟩
    exact ⟨_, ho, _, ht, _, hw, _, hr, rfl⟩

end Panacea.Genesis
