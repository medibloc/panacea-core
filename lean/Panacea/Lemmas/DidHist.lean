import Panacea.Lemmas.Did
/-!
# x/did along a history

`EntryChange` is what one step does to the entry of one DID; the step lemmas are case analyses on it.  No bound on
the history is needed: the handlers refuse to wrap the sequence (F23).
-/
namespace Panacea.Did
open Panacea

def two64 : Nat := 18446744073709551616

/-- Well-formed registry: stored entries always carry a document pointer and a `uint64` sequence, and an
active document describes the DID it is stored under. -/
structure WF (s : State) : Prop where
  hasDoc : ∀ did d, s.get did = some d → d.doc ≠ none
  seqBound : ∀ did d, s.get did = some d → d.seq < two64
  selfId : ∀ did d doc, s.get did = some d → d.doc = some doc → doc.empty = false → doc.id = did

def seqOf (s : State) (did : Bytes) : Nat := (getDoc s did).seq

/-- A tombstone is an empty document at a sequence other than 0: what `DocWithSeq.deactivated` tests. -/
def Dead (s : State) (did : Bytes) : Prop :=
  ∃ d doc, s.get did = some d ∧ d.doc = some doc ∧ doc.empty = true ∧ d.seq ≠ 0

def Live (s : State) (did : Bytes) : Prop :=
  ∃ d doc, s.get did = some d ∧ d.doc = some doc ∧ doc.empty = false

variable {da : Bytes → Option Bytes} {cr : Crypto} {s s' t : State} {m : Msg} {did sd vmID sig : Bytes}

theorem WF.of_entries (h : ∀ did e, s.get did = some e →
    e.doc ≠ none ∧ e.seq < two64 ∧ ∀ doc, e.doc = some doc → doc.empty = false → doc.id = did) : WF s :=
  ⟨fun did e hg => (h did e hg).1, fun did e hg => (h did e hg).2.1, fun did e doc hg => (h did e hg).2.2 doc⟩

theorem nextSeq_lt (n : Nat) : nextSeq n < two64 := Nat.mod_lt _ (by decide)

/-- Where the handler did not refuse (F23), the next sequence of a `uint64` is its successor. -/
theorem nextSeq_succ {n : Nat} (hn : n < two64) (h : nextSeq n ≠ 0) : nextSeq n = n + 1 := by
  rcases Nat.lt_or_ge (n + 1) two64 with h' | h'
  · exact Nat.mod_eq_of_lt h'
  · have : n + 1 = two64 := Nat.le_antisymm hn h'
    exact absurd (by unfold nextSeq wrap64; rw [this]; rfl) h

theorem emptyDoc_empty : emptyDoc.empty = true := by decide

theorem valid_nonempty_of_id {d : Doc} (hid : d.id = did) (hvd : validateDID did = true) : d.empty = false := by
  unfold Doc.empty
  have : did ≠ [] := by intro he; subst he; simp [validateDID] at hvd
  simp [hid, this]

theorem getDoc_congr (h : s'.get did = s.get did) : getDoc s' did = getDoc s did := by
  simp only [getDoc, h]

theorem seqOf_of_get {e : DocWithSeq} (h : s.get did = some e) : seqOf s did = e.seq :=
  congrArg (·.seq) (getDoc_of_get h)

theorem seqOf_set_eq (s : State) (did : Bytes) (e : DocWithSeq) : seqOf (s.set did e) did = e.seq :=
  seqOf_of_get Map.get_set_eq

theorem LiveProof.live (hp : LiveProof cr s did sd vmID sig) : Live s did :=
  let ⟨stored, _, hst, hne, _⟩ := hp
  let ⟨e, hg, hd⟩ := get_of_getDoc_doc hst
  ⟨e, stored, hg, hd, hne⟩

theorem LiveProof.noWrap (hp : LiveProof cr s did sd vmID sig) : nextSeq (seqOf s did) ≠ 0 :=
  let ⟨_, _, _, _, hp⟩ := hp
  hp.noWrap

theorem Dead.not_live (hd : Dead s did) (hl : Live s did) : False := by
  obtain ⟨d, doc, hg, hdoc, hemp, _⟩ := hd
  obtain ⟨d', doc', hg', hdoc', hemp'⟩ := hl
  cases hg.symm.trans hg'
  cases hdoc.symm.trans hdoc'
  cases hemp.symm.trans hemp'

theorem Dead.of_get_eq (h : t.get did = s.get did) (hd : Dead s did) : Dead t did := by
  unfold Dead
  rwa [h]

theorem Dead.not_isEmpty (hd : Dead s did) : (getDoc s did).isEmpty = false := by
  obtain ⟨d, doc, hg, hdoc, _, hseq⟩ := hd
  rw [getDoc_of_get hg]
  exact DocWithSeq.isEmpty_eq_false_iff.mpr ⟨doc, hdoc, .inr hseq⟩

theorem Dead.queryDID (hd : Dead s did) : queryDID s did = .err "not-found:deactivated" := by
  have hne := hd.not_isEmpty
  obtain ⟨d, doc, hg, hdoc, hemp, hseq⟩ := hd
  rw [getDoc_of_get hg] at hne
  rw [Did.queryDID, getDoc_of_get hg, hne, if_neg Bool.false_ne_true, DocWithSeq.deactivated_eq_ok hdoc, hemp,
    decide_eq_true hseq]
  rfl

theorem WF.seqOf_lt (hw : WF s) (did : Bytes) : seqOf s did < two64 :=
  getDoc_cases (P := fun e => e.seq < two64) s did (fun _ => by decide) (hw.seqBound did)

theorem WF.seqOf_of_isEmpty (hw : WF s) (h0 : (getDoc s did).isEmpty = true) : seqOf s did = 0 := by
  refine getDoc_cases (P := fun e => e.isEmpty = true → e.seq = 0) s did (fun _ _ => rfl) (fun e hg h0 => ?_) h0
  -- a stored entry has a document, so it counts as empty only at sequence 0
  cases hd : e.doc with
  | none => exact absurd hd (hw.hasDoc did e hg)
  | some doc =>
    refine Decidable.by_contra fun hs => ?_
    cases (DocWithSeq.isEmpty_eq_false_iff.mpr ⟨doc, hd, .inr hs⟩).symm.trans h0

inductive EntryChange (s s' : State) (did : Bytes) : Prop where
  | unchanged (h : s'.get did = s.get did)
  | created (d : Doc) (db : Bytes) (h0 : (getDoc s did).isEmpty = true) (hid : d.id = did)
      (h : s'.get did = some { doc := some d, seq := 0, docBytes := db })
  /-- Update and Deactivate alike. -/
  | bumped (d : Doc) (db : Bytes) (hnw : nextSeq (seqOf s did) ≠ 0) (hid : d.empty = false → d.id = did)
      (h : s'.get did = some { doc := some d, seq := nextSeq (seqOf s did), docBytes := db })

theorem Accepted.entryChange (h : Accepted cr s m s') (did : Bytes) : EntryChange s s' did := by
  by_cases he : did = m.did
  · subst he
    cases h with
    | create _ _ hid hemp => exact .created _ _ hemp hid Map.get_set_eq
    | update _ _ hid hp => exact .bumped _ _ hp.noWrap (fun _ => hid) Map.get_set_eq
    | deactivate _ hp =>
      exact .bumped emptyDoc [] hp.noWrap (fun h => by cases emptyDoc_empty.symm.trans h) Map.get_set_eq
  · exact .unchanged (h.frame he)

theorem Dead.not_accepted (hd : Dead s m.did) : ¬ Accepted cr s m s' := by
  intro h
  cases h with
  | create _ _ _ hemp => cases hd.not_isEmpty.symm.trans hemp
  | update _ _ _ hp => exact hd.not_live hp.live
  | deactivate _ hp => exact hd.not_live hp.live

theorem LiveProof.two_messages {did did' sd sd' vmID vmID' sig : Bytes}
    (h1 : LiveProof cr s did sd vmID sig) (h2 : LiveProof cr s' did' sd' vmID' sig)
    (hne : sd = sd' → seqOf s did = seqOf s' did' → False) :
    ∃ pk pk' m m', cr.verify pk m sig = true ∧ cr.verify pk' m' sig = true ∧ m ≠ m' :=
  let ⟨_, _, _, _, p1⟩ := h1
  let ⟨_, _, _, _, p2⟩ := h2
  ⟨_, _, _, _, p1.verified, p2.verified, fun he => let ⟨a, b⟩ := signBytes_injective _ _ _ _ he; hne a b⟩

theorem deactivate_dead {fr : Bytes} (h : deliver da cr s (.deactivate did vmID sig fr) = .ok s') : Dead s' did := by
  cases accepted h with
  | deactivate _ hp => exact ⟨_, emptyDoc, Map.get_set_eq, rfl, emptyDoc_empty, hp.noWrap⟩

theorem create_nonempty {doc : Option Doc} {db fr : Bytes} (h : deliver da cr s (.create did doc db vmID sig fr) = .ok s') :
    (getDoc s' did).isEmpty = false := by
  cases accepted h with
  | create hvd _ hid =>
    rw [getDoc_set_eq]
    exact DocWithSeq.isEmpty_eq_false_iff.mpr ⟨_, rfl, .inl (valid_nonempty_of_id hid hvd)⟩

theorem entryChange_of_step (da : Bytes → Option Bytes) (cr : Crypto) (s : State) (m : Msg) (did : Bytes) :
    EntryChange s (step da cr s m) did :=
  step_cases (P := (EntryChange s · did)) (.unchanged rfl) fun _ _ h => h.entryChange did

theorem wf_step (hw : WF s) : WF (step da cr s m) := by
  refine .of_entries fun did e hg => ?_
  cases entryChange_of_step da cr s m did with
  | unchanged h =>
    rw [h] at hg
    exact ⟨hw.hasDoc did e hg, hw.seqBound did e hg, fun doc => hw.selfId did e doc hg⟩
  | created d db _ hid h =>
    cases h.symm.trans hg
    exact ⟨nofun, (by decide : 0 < two64), fun doc h1 _ => by cases h1; exact hid⟩
  | bumped d db _ hid h =>
    cases h.symm.trans hg
    exact ⟨nofun, nextSeq_lt _, fun doc h1 => by cases h1; exact hid⟩

theorem wf_run (ms : List Msg) (hw : WF s) : WF (run da cr s ms) :=
  List.foldlRecOn ms _ hw fun _ ht _ _ => wf_step ht

theorem dead_step (hd : Dead s did) : (step da cr s m).get did = s.get did :=
  step_cases (P := fun s' => s'.get did = s.get did) rfl fun _ _ h =>
    h.frame fun he => Dead.not_accepted (he ▸ hd) h

theorem dead_run (ms : List Msg) (hd : Dead s did) : (run da cr s ms).get did = s.get did :=
  List.foldlRecOn ms _ (motive := fun t : State => t.get did = s.get did) rfl fun t ht m _ => by
    rw [← ht]
    exact dead_step (hd.of_get_eq ht)

theorem nonempty_step (hne : (getDoc s did).isEmpty = false) : (getDoc (step da cr s m) did).isEmpty = false := by
  cases entryChange_of_step da cr s m did with
  | unchanged h => rwa [getDoc_congr h]
  | created _ _ h0 => cases hne.symm.trans h0
  | bumped d _ hnw _ h =>
    rw [getDoc_of_get h]
    exact DocWithSeq.isEmpty_eq_false_iff.mpr ⟨d, rfl, .inr hnw⟩

theorem nonempty_run (ms : List Msg) (hne : (getDoc s did).isEmpty = false) :
    (getDoc (run da cr s ms) did).isEmpty = false :=
  List.foldlRecOn ms _ (motive := fun t => (getDoc t did).isEmpty = false) hne fun _ ht _ _ => nonempty_step ht

theorem seq_step (hw : WF s) :
    seqOf (step da cr s m) did = seqOf s did ∨
    (seqOf (step da cr s m) did = seqOf s did + 1 ∧ deliver da cr s m = .ok (step da cr s m)) := by
  refine step_cases (P := fun s' => seqOf s' did = seqOf s did ∨
    (seqOf s' did = seqOf s did + 1 ∧ deliver da cr s m = .ok s')) (.inl rfl) fun s' h ha => ?_
  cases ha.entryChange did with
  | unchanged h' => exact .inl (congrArg (·.seq) (getDoc_congr h'))
  | created _ _ h0 _ h' => exact .inl ((seqOf_of_get h').trans (hw.seqOf_of_isEmpty h0).symm)
  | bumped _ _ hnw _ h' => exact .inr ⟨(seqOf_of_get h').trans (nextSeq_succ (hw.seqOf_lt did) hnw), h⟩

theorem seq_mono_run (ms : List Msg) (did : Bytes) (hw : WF s) : seqOf s did ≤ seqOf (run da cr s ms) did := by
  refine (List.foldlRecOn ms _ (motive := fun t => WF t ∧ seqOf s did ≤ seqOf t did) ⟨hw, Nat.le_refl _⟩ ?_).2
  intro t ⟨hwt, hle⟩ m _
  refine ⟨wf_step hwt, ?_⟩
  rcases seq_step (da := da) (cr := cr) (m := m) (did := did) hwt with h | ⟨h, _⟩
  · omega
  · omega

end Panacea.Did
