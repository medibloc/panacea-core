import Panacea.Model.Outcome
/-!
# What an `Outcome` computation tells

Handlers are chains of `.ok`, `.err`, `>>=` and `if`; two questions are answered link by link: what a run that
returned `.ok` says about its steps (`_eq_ok`), and whether the chain can panic (`isPanic_`).  `Holds` asks both at once.
-/
namespace Panacea.Outcome
variable {α β : Type}

theorem bind_eq_ok {x : Outcome α} {f : α → Outcome β} {b : β} :
    (x >>= f) = ok b ↔ ∃ a, x = ok a ∧ f a = ok b := by
  cases x <;> simp

theorem seq_eq_ok {x : Outcome Unit} {y : Outcome β} {b : β} :
    (x >>= fun _ => y) = ok b ↔ x = ok () ∧ y = ok b := by
  rw [bind_eq_ok]
  exact ⟨fun ⟨_, hx, hy⟩ => ⟨hx, hy⟩, fun ⟨hx, hy⟩ => ⟨(), hx, hy⟩⟩

theorem ite_err_eq_ok {c : Prop} [Decidable c] {e : String} {y : Outcome α} {a : α} :
    (if c then err e else y) = ok a ↔ ¬ c ∧ y = ok a := by
  by_cases h : c <;> simp [h]

theorem isOk_eq_false {x : Outcome α} (h : ∀ a, x ≠ ok a) : x.isOk = false := by
  cases x with
  | ok a => exact absurd rfl (h a)
  | err c => rfl
  | panic c => rfl

/-! The implications are for walking down a definition by hand, each part under the conditions on the path to it;
the `_iff` forms do the walk under `simp only`, which then needs `implies_true` and `and_self`. -/

theorem isPanic_ok (a : α) : (ok a).isPanic = false := rfl
theorem isPanic_err (c : String) : (err c : Outcome α).isPanic = false := rfl

theorem isPanic_bind_iff {x : Outcome α} {f : α → Outcome β} :
    (x >>= f).isPanic = false ↔ x.isPanic = false ∧ ∀ a, x = ok a → (f a).isPanic = false := by
  cases x with
  | ok a => exact ⟨fun h => ⟨rfl, fun _ e => by cases e; exact h⟩, fun h => h.2 a rfl⟩
  | err c => exact ⟨fun _ => ⟨rfl, fun _ e => by cases e⟩, fun _ => rfl⟩
  | panic s => exact ⟨fun h => (by cases h), fun h => (by cases h.1)⟩

theorem isPanic_ite_iff {c : Prop} [Decidable c] {x y : Outcome α} :
    (if c then x else y).isPanic = false ↔ (c → x.isPanic = false) ∧ (¬ c → y.isPanic = false) := by
  by_cases h : c <;> simp [h]

theorem isPanic_bind {x : Outcome α} {f : α → Outcome β} (hx : x.isPanic = false)
    (hf : ∀ a, x = ok a → (f a).isPanic = false) : (x >>= f).isPanic = false :=
  isPanic_bind_iff.2 ⟨hx, hf⟩

theorem isPanic_ite {c : Prop} [Decidable c] {x y : Outcome α} (hx : c → x.isPanic = false)
    (hy : ¬ c → y.isPanic = false) : (if c then x else y).isPanic = false :=
  isPanic_ite_iff.2 ⟨hx, hy⟩

variable {P : α → Prop} {Q : Prop} {x : Outcome α}

/-- A value that `x` returns satisfies `P`, and `x` panics only if `Q`; an error is always allowed. -/
def Holds (P : α → Prop) (Q : Prop) : Outcome α → Prop
  | ok a => P a
  | err _ => True
  | panic _ => Q

theorem Holds.of_eq_ok {a : α} (h : Holds P Q x) (e : x = ok a) : P a := by
  subst e; exact h

theorem Holds.isPanic_eq_false (h : Holds P Q x) (hq : ¬ Q) : x.isPanic = false := by
  cases x with
  | panic p => exact absurd h hq
  | _ => rfl

theorem Holds.ite {c : Prop} [Decidable c] {y : Outcome α} (hx : c → Holds P Q x) (hy : ¬ c → Holds P Q y) :
    Holds P Q (if c then x else y) := by
  by_cases hc : c
  · rw [if_pos hc]; exact hx hc
  · rw [if_neg hc]; exact hy hc

theorem Holds.ite_err {c : Prop} [Decidable c] {e : String} {y : Outcome α} (h : ¬ c → Holds P Q y) :
    Holds P Q (if c then err e else y) :=
  Holds.ite (fun _ => trivial) h

theorem Holds.bind {R : β → Prop} {f : α → Outcome β} (hx : Holds P Q x) (hf : ∀ a, P a → Holds R Q (f a)) :
    Holds R Q (x >>= f) := by
  cases x with
  | ok a => exact hf a hx
  | err c => trivial
  | panic p => exact hx

theorem Holds.ite_ne_err {γ : Type} {a b : γ} [Decidable (a = b)] {e : String} {y : Outcome α}
    (h : a = b → Holds P Q y) : Holds P Q (if a ≠ b then err e else y) :=
  Holds.ite_err fun hne => h (Decidable.not_not.mp hne)

end Panacea.Outcome
