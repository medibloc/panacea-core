import Panacea.Lemmas.PrefixView
/-! For the refinement layer, where a typed table is `mapVals decode` of a raw one. -/
namespace Panacea.Map
variable {V W : Type}

def mapVals (f : V → W) (l : Map V) : Map W := l.map fun e => (e.1, f e.2)

theorem get_mapVals (f : V → W) (l : Map V) (k : Bytes) :
    Map.get (mapVals f l) k = (Map.get l k).map f := by
  unfold mapVals
  induction l with
  | nil => rfl
  | cons e l ih =>
    obtain ⟨k0, v0⟩ := e
    simp only [List.map_cons, get]
    split <;> simp [ih]

theorem set_mapVals (f : V → W) (l : Map V) (k : Bytes) (v : V) :
    mapVals f (Map.set l k v) = Map.set (mapVals f l) k (f v) := by
  unfold mapVals
  induction l with
  | nil => rfl
  | cons e l ih =>
    obtain ⟨k0, v0⟩ := e
    rw [List.map_cons, set_cons, set_cons]
    by_cases h : k0 = k
    · rw [if_pos h, if_pos h]
      rfl
    · rw [if_neg h, if_neg h]
      by_cases hl : Bytes.lt k k0 = true
      · rw [if_pos hl, if_pos hl]
        rfl
      · rw [if_neg hl, if_neg hl, List.map_cons, ih]

theorem del_mapVals (f : V → W) (l : Map V) (k : Bytes) :
    mapVals f (Map.del l k) = Map.del (mapVals f l) k := by
  rw [del_eq_filter, del_eq_filter, mapVals, mapVals, List.filter_map]
  rfl

theorem keys_mapVals (f : V → W) (m : Map V) : (mapVals f m).keys = m.keys := by
  unfold mapVals keys
  simp [List.map_map, Function.comp_def]

theorem has_mapVals (f : V → W) (m : Map V) (k : Bytes) : (mapVals f m).has k = m.has k := by
  unfold has
  rw [get_mapVals, Option.isSome_map]

theorem sorted_mapVals {f : V → W} {m : Map V} : (mapVals f m).Sorted ↔ m.Sorted := by
  unfold Sorted
  rw [keys_mapVals]

theorem prefixView_mapVals (f : V → W) (m : Map V) (p : Bytes) :
    prefixView (mapVals f m) p = (prefixView m p).map fun e => (e.1, f e.2) := by
  unfold prefixView mapVals
  simp only [List.filter_map, List.map_map, Function.comp_def]

end Panacea.Map
