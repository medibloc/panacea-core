import Panacea.Model.Bytes
/-! `Bytes.lt` is core's lexicographic `<` on lists, so the order facts are core's.  `be64` / `fromBe64` are the width-8
case of `beBytes w n` (the `w` low big-endian digits) and `beNat v bs` (Horner with start value `v`), inverse at every
width, by induction.  The `wrap64` / `decU64` lemmas are stated with the numeral `2^64`, as the definitions are:
`Aol.two64`, `Did.two64`, `Go.two64` unfold to it. -/
namespace Panacea

theorem uint8_ofNat_inj {a b : Nat} (ha : a < 256) (hb : b < 256) (h : UInt8.ofNat a = UInt8.ofNat b) : a = b := by
  rw [← UInt8.toNat_ofNat_of_lt' ha, h, UInt8.toNat_ofNat_of_lt' hb]

namespace Bytes

theorem lt_iff : ∀ {a b : Bytes}, Bytes.lt a b = true ↔ a < b
  | [], [] => by simp [Bytes.lt]
  | [], _ :: _ => by simp [Bytes.lt]
  | _ :: _, [] => by simp [Bytes.lt]
  | x :: xs, y :: ys => by
    rw [Bytes.lt, List.cons_lt_cons_iff, ← lt_iff (a := xs)]
    by_cases h : x < y
    · simp [h]
    · by_cases h' : y < x
      · have : x ≠ y := by
          rintro rfl
          exact h h'
        simp [h, h', this]
      · have : x = y := UInt8.le_antisymm (UInt8.not_lt.mp h') (UInt8.not_lt.mp h)
        simp [this]

theorem lt_irrefl : ∀ a : Bytes, Bytes.lt a a = false :=
  fun a => Bool.eq_false_iff.mpr fun h => List.lt_irrefl a (lt_iff.mp h)

theorem lt_trans {a b c : Bytes} (h1 : Bytes.lt a b = true) (h2 : Bytes.lt b c = true) : Bytes.lt a c = true :=
  lt_iff.mpr (List.lt_trans (lt_iff.mp h1) (lt_iff.mp h2))

theorem lt_asymm {a b : Bytes} (h : Bytes.lt a b = true) : Bytes.lt b a = false :=
  Bool.eq_false_iff.mpr fun h' => List.lt_asymm (lt_iff.mp h) (lt_iff.mp h')

theorem lt_trichotomy : ∀ a b : Bytes, Bytes.lt a b = true ∨ a = b ∨ Bytes.lt b a = true := by
  simp only [lt_iff]
  exact Std.lt_trichotomy

theorem lt_ne {a b : Bytes} (h : Bytes.lt a b = true) : a ≠ b := by
  rintro rfl
  rw [lt_irrefl] at h
  cases h

theorem lt_append_left : ∀ (p a b : Bytes), Bytes.lt (p ++ a) (p ++ b) = Bytes.lt a b
  | [], _, _ => rfl
  | x :: p, a, b => by
    rw [List.cons_append, List.cons_append, Bytes.lt, if_neg (UInt8.lt_irrefl x), if_neg (UInt8.lt_irrefl x),
      lt_append_left p a b]

theorem isPrefixOf_iff {p l : Bytes} : p.isPrefixOf l = true ↔ ∃ r, l = p ++ r :=
  List.isPrefixOf_iff_prefix.trans ⟨fun ⟨r, h⟩ => ⟨r, h.symm⟩, fun ⟨r, h⟩ => ⟨r, h.symm⟩⟩

theorem isPrefixOf_append (p k : Bytes) : p.isPrefixOf (p ++ k) = true :=
  isPrefixOf_iff.mpr ⟨k, rfl⟩

end Bytes

def beBytes : Nat → Nat → Bytes
  | 0, _ => []
  | w + 1, n => beBytes w (n / 256) ++ [UInt8.ofNat (n % 256)]

def beNat (v : Nat) (bs : Bytes) : Nat := bs.foldl (fun v b => v * 256 + b.toNat) v

theorem beNat_append (v : Nat) (bs : Bytes) (b : UInt8) : beNat v (bs ++ [b]) = beNat v bs * 256 + b.toNat := by
  simp [beNat]

theorem beNat_beBytes (w n : Nat) : beNat 0 (beBytes w n) = n % 256 ^ w := by
  induction w generalizing n with
  | zero => simp [beBytes, beNat, Nat.mod_one]
  | succ w ih =>
    rw [beBytes, beNat_append, ih, UInt8.toNat_ofNat_of_lt' (Nat.mod_lt _ (by decide)),
      Nat.pow_succ', Nat.mod_mul, Nat.add_comm, Nat.mul_comm 256]

theorem beBytes_push (w v : Nat) (b : UInt8) : beBytes (w + 1) (v * 256 + b.toNat) = beBytes w v ++ [b] := by
  rw [beBytes, Nat.mul_add_mod_of_lt b.toNat_lt, UInt8.ofNat_toNat, Nat.add_comm,
    Nat.add_mul_div_right _ _ (by decide : 0 < 256), Nat.div_eq_of_lt b.toNat_lt, Nat.zero_add]

/-- The accumulator invariant of the Horner fold, which is what the induction needs; only `w = 0`, `v = 0` is used. -/
theorem beBytes_beNat (bs : Bytes) (w v : Nat) : beBytes (w + bs.length) (beNat v bs) = beBytes w v ++ bs := by
  induction bs generalizing w v with
  | nil => simp [beNat]
  | cons b bs ih =>
    have := ih (w + 1) (v * 256 + b.toNat)
    rwa [beBytes_push, Nat.add_right_comm, List.append_assoc] at this

theorem be64_eq (n : Nat) : be64 n = beBytes 8 n := by
  simp only [be64, beBytes, List.nil_append, List.cons_append, Nat.div_div_eq_div_mul, Nat.reduceMul]

theorem be64_length (n : Nat) : (be64 n).length = 8 := rfl

theorem fromBe64_eq (b : Bytes) : fromBe64 b = if b.length = 8 then some (beNat 0 b) else none := by
  unfold fromBe64
  split
  · simp only [beNat, List.foldl_cons, List.foldl_nil, List.length_cons, List.length_nil, if_pos, Nat.add_mul,
      Nat.zero_mul, Nat.zero_add, Nat.mul_assoc, Nat.reduceMul]
  · rename_i hne
    rw [if_neg]
    intro hl
    match b, hl with
    | [a, b, c, d, e, f, g, h], _ => exact hne _ _ _ _ _ _ _ _ rfl

theorem fromBe64_be64_mod (n : Nat) : fromBe64 (be64 n) = some (n % 18446744073709551616) := by
  rw [fromBe64_eq, be64_length, if_pos rfl, be64_eq, beNat_beBytes]

theorem fromBe64_be64 (n : Nat) (h : n < 18446744073709551616) : fromBe64 (be64 n) = some n := by
  rw [fromBe64_be64_mod, Nat.mod_eq_of_lt h]

theorem be64_fromBe64 {b : Bytes} {n : Nat} (h : fromBe64 b = some n) : be64 n = b := by
  rw [fromBe64_eq] at h
  split at h
  · rename_i hl
    cases h
    have := beBytes_beNat b 0 0
    rwa [hl, ← be64_eq] at this
  · cases h

theorem fromBe64_lt {b : Bytes} {n : Nat} (h : fromBe64 b = some n) : n < 18446744073709551616 := by
  have := fromBe64_be64_mod n
  rw [be64_fromBe64 h, h] at this
  have := Option.some.inj this
  omega

theorem be64_injective (a b : Nat) (ha : a < 18446744073709551616) (hb : b < 18446744073709551616)
    (h : be64 a = be64 b) : a = b := by
  have h1 := fromBe64_be64 a ha
  rw [h, fromBe64_be64 b hb] at h1
  exact (Option.some.inj h1).symm

theorem wrap64_le (n : Nat) : wrap64 n ≤ n := Nat.mod_le _ _

theorem wrap64_of_lt {n : Nat} (h : n < 18446744073709551616) : wrap64 n = n := Nat.mod_eq_of_lt h

theorem decU64_succ {x : Nat} (h : x + 1 < 18446744073709551616) : decU64 (x + 1) = x := by
  rw [decU64, Nat.add_assoc, Nat.add_mod_right]
  exact Nat.mod_eq_of_lt (Nat.lt_of_succ_lt h)

theorem wrap64_succ_mod {a c : Nat} (h : a % 18446744073709551616 = c % 18446744073709551616) :
    wrap64 (a + 1) % 18446744073709551616 = (c + 1) % 18446744073709551616 := by
  rw [wrap64, Nat.mod_mod, Nat.add_mod, h, ← Nat.add_mod]

theorem decU64_mod {a c : Nat} (h : a % 18446744073709551616 = (c + 1) % 18446744073709551616) :
    decU64 a % 18446744073709551616 = c % 18446744073709551616 := by
  rw [decU64, Nat.mod_mod, Nat.add_mod, h, ← Nat.add_mod, Nat.add_assoc, Nat.add_mod_right]

end Panacea
