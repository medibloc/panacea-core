import Panacea.Lemmas.CompKey
/-! String form of composite keys: `splitSlash` inverts `joinSlash` on `/`-free parts, `parseUint64` inverts `formatUint`. -/
namespace Panacea.CompKey

theorem splitSlashAux_append (p acc rest : Bytes) (hp : slash ∉ p) :
    splitSlashAux acc (p ++ rest) = splitSlashAux (p.reverse ++ acc) rest := by
  induction p generalizing acc with
  | nil => rfl
  | cons c cs ih =>
    have hc : c ≠ slash := fun h => hp (by simp [h])
    have := ih (c :: acc) (fun h => hp (by simp [h]))
    simpa [splitSlashAux, hc] using this

theorem splitSlash_joinSlash {ps : List Bytes} (hne : ps ≠ []) (h : ∀ p ∈ ps, slash ∉ p) :
    splitSlash (joinSlash ps) = ps := by
  induction ps with
  | nil => exact absurd rfl hne
  | cons p ps ih =>
    have hp := fun rest => splitSlashAux_append p [] rest (h p (by simp))
    cases ps with
    | nil => simpa [splitSlash, joinSlash, splitSlashAux] using hp []
    | cons q qs =>
      have := ih (by simp) (fun x hx => h x (by simp [hx]))
      rw [splitSlash] at this
      show splitSlashAux [] (p ++ slash :: joinSlash (q :: qs)) = _
      rw [hp, splitSlashAux, if_pos rfl, this]
      simp

theorem joinSlash_cons (x : Bytes) (xs : List Bytes) :
    joinSlash (x :: xs) = x ++ (xs.map fun y => slash :: y).flatten := by
  induction xs generalizing x with
  | nil => simp [joinSlash]
  | cons y ys ih =>
    rw [joinSlash, ih y]
    · simp
    · simp

theorem parseUintAux_append (a b : Bytes) (acc : Nat) :
    parseUintAux (a ++ b) acc = (parseUintAux a acc).bind (fun x => parseUintAux b x) := by
  induction a generalizing acc with
  | nil => simp [parseUintAux]
  | cons c cs ih =>
    simp only [List.cons_append, parseUintAux]
    split
    · exact ih _
    · rfl

theorem parseUintAux_digit (d : Nat) (h : d < 10) (cs : Bytes) (s : Nat) :
    parseUintAux (UInt8.ofNat (48 + d) :: cs) s = parseUintAux cs (s * 10 + d) := by
  have h1 : 48 ≤ 48 + d ∧ 48 + d ≤ 57 := by omega
  rw [parseUintAux, UInt8.toNat_ofNat_of_lt' (by show _ < 256; omega), if_pos h1, Nat.add_sub_cancel_left]

/-- The invariant of `decDigitsAux`: parsed from 0, the digits of `n` leave `n` to continue on `acc` (no lengths, no powers). -/
theorem parseUintAux_decDigitsAux (fuel n : Nat) (acc : Bytes) (h : n < fuel) :
    parseUintAux (decDigitsAux fuel n acc) 0 = parseUintAux acc n := by
  induction fuel generalizing n acc with
  | zero => omega
  | succ fuel ih =>
    have hd : n % 10 < 10 := Nat.mod_lt _ (by decide)
    have hn := Nat.div_add_mod' n 10
    rw [decDigitsAux]
    split
    · rename_i h0
      rw [h0] at hn
      rw [parseUintAux_digit _ hd, hn]
    · rw [ih _ _ (by omega), parseUintAux_digit _ hd, hn]

theorem decDigitsAux_ne_nil (fuel n : Nat) (acc : Bytes) (h : 0 < fuel ∨ acc ≠ []) : decDigitsAux fuel n acc ≠ [] := by
  induction fuel generalizing n acc with
  | zero => simpa [decDigitsAux] using h
  | succ fuel ih =>
    rw [decDigitsAux]
    split
    · simp
    · exact ih _ _ (.inr (by simp))

theorem parseUint64_formatUint (n : Nat) (h : n < 18446744073709551616) : parseUint64 (formatUint n) = some n := by
  rw [parseUint64, formatUint, if_neg (decDigitsAux_ne_nil _ _ _ (.inl n.succ_pos)),
    parseUintAux_decDigitsAux _ _ _ n.lt_succ_self]
  simp [parseUintAux, h]

theorem parseUint64_lt {s : Bytes} {n : Nat} (h : parseUint64 s = some n) : n < 18446744073709551616 := by
  unfold parseUint64 at h
  split at h
  · cases h
  · split at h
    · split at h
      · cases h
        assumption
      · cases h
    · cases h

theorem decDigitsAux_noslash (fuel n : Nat) (acc : Bytes) (h : slash ∉ acc) : slash ∉ decDigitsAux fuel n acc := by
  induction fuel generalizing n acc with
  | zero => exact h
  | succ fuel ih =>
    have hd : ∀ d < 10, slash ≠ UInt8.ofNat (48 + d) := by decide
    have hnew : slash ∉ UInt8.ofNat (48 + n % 10) :: acc :=
      fun hm => (List.mem_cons.mp hm).elim (hd _ (Nat.mod_lt n (by decide))) h
    rw [decDigitsAux]
    split
    · exact hnew
    · exact ih _ _ hnew

theorem formatUint_noslash (n : Nat) : slash ∉ formatUint n :=
  decDigitsAux_noslash _ _ _ (by simp)

end Panacea.CompKey
