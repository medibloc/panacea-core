import Panacea.Lemmas.AolRec
/-! Dense numbering: the offsets acknowledged for a topic along a history (`acks`, what `C01.offsets_dense` is stated
about) are consecutive from its record count; `Effect.totalRecords_step` is the one fact about a step it needs. -/
namespace Panacea.Aol
open Panacea CompKey

/-- Is this message an `AddRecord` for topic `(o, t)`? -/
def targets (c : AddrCodec) (o t : Bytes) : Msg → Bool
  | .addRecord tn _ _ _ oa _ => decide (c.dec oa = some o) && decide (tn = t)
  | _ => false

/-- The offsets acknowledged to `AddRecord`s for topic `(o, t)` along a history, in order. -/
def acks (c : AddrCodec) (o t : Bytes) : State → List (Int × Msg) → List Nat
  | _, [] => []
  | s, op :: ops =>
    let rest := acks c o t (step c s op) ops
    match handle c op.1 s op.2 with
    | .ok (_, .addRecord _ _ n) => if targets c o t op.2 then n :: rest else rest
    | _ => rest

theorem totalRecords_eq {s : State} {o t tk : Bytes} (h : encode [o, t] = some tk) :
    totalRecords s o t = (topicAt s tk).totalRecords := by
  simp only [totalRecords, h, topicAt]
  cases s.topics.get tk <;> rfl

theorem totalRecords_of_none {s : State} {o t : Bytes} (h : encode [o, t] = none) : totalRecords s o t = 0 := by
  simp only [totalRecords, h]

theorem totalRecords_congr {s s' : State} {o t : Bytes}
    (h : ∀ k, encode [o, t] = some k → (topicAt s' k).totalRecords = (topicAt s k).totalRecords) :
    totalRecords s' o t = totalRecords s o t := by
  cases he : encode [o, t] with
  | none => rw [totalRecords_of_none he, totalRecords_of_none he]
  | some k => rw [totalRecords_eq he, totalRecords_eq he, h k he]

theorem queryRecord_isOk_iff {c : AddrCodec} {s : State} {oa tn o : Bytes} (hi : RecInv s) (ho : c.dec oa = some o)
    {m : Nat} (hm : m < two64) : (queryRecord c s oa tn m).isOk = true ↔ m < totalRecords s o tn := by
  cases hrk : encode [o, tn, be64 m] with
  | some rk =>
    obtain ⟨tk, htk, _⟩ := encode_take hrk 2
    rw [queryRecord_isOk ho hrk, (recInv_iff.mp hi).1 o tn tk m rk htk hrk hm, totalRecords_eq htk]
  | none =>
    -- the topic has no key either, so it does not exist, and the query fails on the key
    have hq : (queryRecord c s oa tn m).isOk = false := Outcome.isOk_eq_false fun rec h => by
      obtain ⟨o', rk, ho', hrk', _⟩ := queryRecord_eq_ok.mp h
      cases ho.symm.trans ho'
      cases hrk.symm.trans hrk'
    rw [hq, totalRecords_of_none ((encode_be64_none _).mp hrk)]
    exact ⟨nofun, fun h => absurd h (Nat.not_lt_zero m)⟩

theorem Effect.totalRecords_step {c : AddrCodec} {now : Int} {s s' : State} {m : Msg} {r : Resp} {B : Nat}
    (he : Effect c now s m s' r) (hb : Below s B) (hB : B + 1 < two64) (o t : Bytes) :
    (targets c o t m = true ∧ (∃ oa, r = .addRecord oa t (totalRecords s o t)) ∧
      totalRecords s' o t = totalRecords s o t + 1) ∨
    (targets c o t m = false ∧ totalRecords s' o t = totalRecords s o t) := by
  -- `targets` read off the response, which is all that `RecEffect` keeps of the message
  have htg : targets c o t m = match r with
      | .empty => false
      | .addRecord oa tn _ => decide (c.dec oa = some o) && decide (tn = t) := by
    cases he <;> rfl
  match he.toRec with
  | .keep hc _ => exact .inr ⟨htg, totalRecords_congr fun k _ => hc k⟩
  | .append (oa := oa) (o := o') (t := tn) (tk := tk) ho htk _ hc _ =>
    rw [wrap64_of_lt (Nat.lt_of_le_of_lt (Nat.succ_le_succ (hb.topicAt tk)) hB)] at hc
    simp only [ho, Option.some.injEq] at htg
    by_cases hot : o' = o ∧ tn = t
    · obtain ⟨rfl, rfl⟩ := hot
      refine .inl ⟨by simp [htg], ⟨oa, by rw [totalRecords_eq htk]⟩, ?_⟩
      rw [totalRecords_eq htk, totalRecords_eq htk, hc, if_pos rfl]
    · refine .inr ⟨by simpa [htg] using hot, totalRecords_congr fun k htk' => ?_⟩
      rw [hc, if_neg fun hk => hot (by subst hk; exact encode2_inj htk htk')]

theorem acks_cons {c : AddrCodec} (o t : Bytes) {s : State} {B : Nat} (hb : Below s B) (hB : B + 1 < two64)
    (op : Int × Msg) (ops : List (Int × Msg)) :
    ∃ k, acks c o t s (op :: ops) = List.range' (totalRecords s o t) k ++ acks c o t (step c s op) ops ∧
      totalRecords (step c s op) o t = totalRecords s o t + k := by
  cases h : handle c op.1 s op.2 with
  | ok p =>
    obtain ⟨s', r⟩ := p
    rw [show step c s op = s' by simp only [step, h]]
    rcases (effect_of_handle h).totalRecords_step hb hB o t with ⟨htg, ⟨oa, rfl⟩, htot⟩ | ⟨htg, htot⟩
    · exact ⟨1, by simp [acks, step, h, htg], htot⟩
    · exact ⟨0, by cases r <;> simp [acks, step, h, htg], htot⟩
  | err e => exact ⟨0, by simp [acks, step, h], by simp [step, h]⟩
  | panic e => exact ⟨0, by simp [acks, step, h], by simp [step, h]⟩

theorem queryRecord_run {c : AddrCodec} (ops : List (Int × Msg)) {s : State} {B : Nat} (hi : RecInv s) (hb : Below s B)
    (hB : B + ops.length < two64) {oa tn : Bytes} {m : Nat} {rec : Record} (h : queryRecord c s oa tn m = .ok rec) :
    queryRecord c (run c s ops) oa tn m = .ok rec := by
  obtain ⟨o, rk, ho, hrk, hg⟩ := queryRecord_eq_ok.mp h
  exact queryRecord_eq_ok.mpr ⟨o, rk, ho, hrk, (recInv_run ops hi hb hB).2.2 rk rec hg⟩

end Panacea.Aol
