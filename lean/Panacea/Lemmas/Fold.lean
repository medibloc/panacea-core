/-!
# Induction along a history

A history is `ops.foldl step s`; core's `List.foldlRecOn` carries an invariant along it.  `foldl_budget` is the form for
invariants that use up a budget (a counter that must stay below `2^64`): indexed by what has been spent, one per step.
-/
namespace Panacea

theorem foldl_budget {σ α} (P : Nat → σ → Prop) (f : σ → α → σ) (N : Nat)
    (hstep : ∀ B s a, B + 1 < N → P B s → P (B + 1) (f s a)) :
    ∀ (l : List α) (B : Nat) (s : σ), B + l.length < N → P B s → P (B + l.length) (l.foldl f s)
  | [], _, _, _, h => h
  | a :: l, B, s, hB, h => by
    rw [List.length_cons, ← Nat.add_assoc, Nat.add_right_comm] at hB ⊢
    exact foldl_budget P f N hstep l (B + 1) (f s a) hB (hstep B s a (Nat.lt_of_le_of_lt (Nat.le_add_right _ _) hB) h)

end Panacea
