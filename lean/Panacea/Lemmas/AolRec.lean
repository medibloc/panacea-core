import Panacea.Lemmas.Aol
import Panacea.Lemmas.Fold
/-! `RecInv` and its preservation.  For the record side an accepted message either keeps a topic's counter and the
records, or appends the record numbered by the counter (`RecEffect`). -/
namespace Panacea.Aol
open Panacea CompKey

def two64 : Nat := 18446744073709551616

/-- Records and `total_records` agree: for every topic the stored offsets are exactly
`[0, total_records)`, records exist only under existing topics, counters are `uint64` values. -/
structure RecInv (s : State) : Prop where
  sound : ∀ o t n rk, n < two64 → encode [o, t, be64 n] = some rk → s.records.has rk = true →
    ∃ tk topic, encode [o, t] = some tk ∧ s.topics.get tk = some topic ∧ n < topic.totalRecords
  complete : ∀ o t tk topic n rk, encode [o, t] = some tk → s.topics.get tk = some topic →
    n < topic.totalRecords → encode [o, t, be64 n] = some rk → s.records.has rk = true
  bounded : ∀ tk topic, s.topics.get tk = some topic → topic.totalRecords < two64

/-- `B` is the budget that `foldl_budget` spends, one per message of a history. -/
def Below (s : State) (B : Nat) : Prop := ∀ tk topic, s.topics.get tk = some topic → topic.totalRecords ≤ B

theorem Below.topicAt {s : State} {B : Nat} (hb : Below s B) (tk : Bytes) : (topicAt s tk).totalRecords ≤ B :=
  topicAt_rec (Nat.zero_le B) (hb tk)

theorem recInv_empty : RecInv {} := by
  refine ⟨?_, ?_, ?_⟩
  · intro o t n rk _ _ h
    cases h
  · intro o t tk topic n rk _ h
    simp [Map.get] at h
  · intro tk topic h
    simp [Map.get] at h

theorem lt_topicAt_iff {s : State} {tk : Bytes} {n : Nat} :
    n < (topicAt s tk).totalRecords ↔ ∃ topic, s.topics.get tk = some topic ∧ n < topic.totalRecords :=
  ⟨topicAt_rec (P := fun tp => n < tp.totalRecords → ∃ topic, s.topics.get tk = some topic ∧ n < topic.totalRecords)
      (fun h => absurd h (Nat.not_lt_zero n)) fun topic hg h => ⟨topic, hg, h⟩,
    fun ⟨_, hg, h⟩ => topicAt_of_get hg ▸ h⟩

/-- Per record key (counter 0 for an absent topic); preservation is proved in this form. -/
theorem recInv_iff {s : State} : RecInv s ↔
    (∀ o t tk n rk, encode [o, t] = some tk → encode [o, t, be64 n] = some rk → n < two64 →
      (s.records.has rk = true ↔ n < (topicAt s tk).totalRecords)) ∧
    ∀ tk, (topicAt s tk).totalRecords < two64 := by
  constructor
  · intro hi
    refine ⟨fun o t tk n rk htk hrk hn => ⟨fun hhas => ?_, fun hlt => ?_⟩, fun tk => ?_⟩
    · obtain ⟨tk', topic, htk', hget, hlt⟩ := hi.sound o t n rk hn hrk hhas
      cases htk.symm.trans htk'
      exact lt_topicAt_iff.mpr ⟨topic, hget, hlt⟩
    · obtain ⟨topic, hget, hlt⟩ := lt_topicAt_iff.mp hlt
      exact hi.complete o t tk topic n rk htk hget hlt hrk
    · exact topicAt_rec (by decide) (hi.bounded tk)
  · intro ⟨hstored, hbound⟩
    refine ⟨fun o t n rk hn hrk hhas => ?_, fun o t tk topic n rk htk hget hlt hrk => ?_, fun tk topic hget => ?_⟩
    · obtain ⟨tk, htk, _⟩ := encode_take hrk 2
      obtain ⟨topic, hget, hlt⟩ := lt_topicAt_iff.mp ((hstored o t tk n rk htk hrk hn).mp hhas)
      exact ⟨tk, topic, htk, hget, hlt⟩
    · have hb : topic.totalRecords < two64 := topicAt_of_get hget ▸ hbound tk
      exact (hstored o t tk n rk htk hrk (Nat.lt_trans hlt hb)).mpr (lt_topicAt_iff.mpr ⟨topic, hget, hlt⟩)
    · exact topicAt_of_get hget ▸ hbound tk

theorem recordKey_eq_iff {o t tk rk o' t' tk' rk' : Bytes} {n n' : Nat} (htk : encode [o, t] = some tk)
    (htk' : encode [o', t'] = some tk') (hrk : encode [o, t, be64 n] = some rk)
    (hrk' : encode [o', t', be64 n'] = some rk') (hn : n < two64) (hn' : n' < two64) :
    rk = rk' ↔ tk = tk' ∧ n = n' := by
  constructor
  · intro he
    subst he
    obtain ⟨rfl, rfl, rfl⟩ := recordKey_inj hn hn' hrk hrk'
    exact ⟨Option.some.inj (htk.symm.trans htk'), rfl⟩
  · intro ⟨hk, hnn⟩
    subst hk hnn
    obtain ⟨rfl, rfl⟩ := encode2_inj htk htk'
    exact Option.some.inj (hrk.symm.trans hrk')

theorem topicAt_keep {s s' : State} {tk : Bytes} {new : Topic} (ht : s'.topics = s.topics.set tk new)
    (hn : new.totalRecords = (topicAt s tk).totalRecords) (k : Bytes) :
    (topicAt s' k).totalRecords = (topicAt s k).totalRecords := by
  rw [topicAt_set ht]
  split
  · rename_i hk
    rw [hk]
    exact hn
  · rfl

/-- What an accepted message does to the counter of every topic key `k` (0 where no topic is stored) and to the records. -/
inductive RecEffect (c : AddrCodec) (s s' : State) : Resp → Prop
  | keep (hc : ∀ k, (topicAt s' k).totalRecords = (topicAt s k).totalRecords) (hr : s'.records = s.records) :
      RecEffect c s s' .empty
  | append {oa o t tk rk : Bytes} {rec : Record} (ho : c.dec oa = some o) (htk : encode [o, t] = some tk)
      (hrk : encode [o, t, be64 (topicAt s tk).totalRecords] = some rk)
      (hc : ∀ k, (topicAt s' k).totalRecords =
        if k = tk then wrap64 ((topicAt s tk).totalRecords + 1) else (topicAt s k).totalRecords)
      (hr : s'.records = s.records.set rk rec) : RecEffect c s s' (.addRecord oa t (topicAt s tk).totalRecords)

theorem Effect.toRec {c : AddrCodec} {now : Int} {s s' : State} {m : Msg} {r : Resp} (h : Effect c now s m s' r) :
    RecEffect c s s' r := by
  cases h with
  | createTopic _ _ hnew _ => exact .keep (topicAt_keep rfl (by simp [topicAt, hnew])) rfl
  | addWriter _ _ _ hget _ _ => exact .keep (topicAt_keep rfl (by rw [topicAt_of_get hget])) rfl
  | deleteWriter _ _ _ _ _ => exact .keep (topicAt_keep rfl rfl) rfl
  | addRecord ho _ htk hget _ _ hrk =>
    cases topicAt_of_get hget
    exact .append ho htk hrk (fun k => by rw [topicAt_set rfl]; split <;> rfl) rfl

theorem RecEffect.below_succ {c : AddrCodec} {s s' : State} {r : Resp} {B : Nat} (h : RecEffect c s s' r)
    (hb : Below s B) : Below s' (B + 1) := by
  intro k topic' hg
  rw [← topicAt_of_get hg]
  cases h with
  | keep hc hr =>
    rw [hc]
    exact Nat.le_succ_of_le (hb.topicAt k)
  | append _ htk hrk hc hr =>
    rw [hc]
    split
    · exact Nat.le_trans (wrap64_le _) (Nat.succ_le_succ (hb.topicAt _))
    · exact Nat.le_succ_of_le (hb.topicAt k)

theorem RecEffect.recInv {c : AddrCodec} {s s' : State} {r : Resp} {B : Nat} (h : RecEffect c s s' r)
    (hi : RecInv s) (hb : Below s B) (hB : B + 1 < two64) : RecInv s' := by
  obtain ⟨hstored, hbound⟩ := recInv_iff.mp hi
  refine recInv_iff.mpr ?_
  match h with
  | .keep hc hr =>
    refine ⟨fun o t tk n rk htk hrk hn' => ?_, fun tk => ?_⟩
    · rw [hr, hc]
      exact hstored o t tk n rk htk hrk hn'
    · rw [hc]
      exact hbound tk
  | .append (tk := tk) _ htk hrk hc hr =>
    have hN : (topicAt s tk).totalRecords + 1 < two64 := Nat.lt_of_le_of_lt (Nat.succ_le_succ (hb.topicAt tk)) hB
    rw [wrap64_of_lt hN] at hc
    refine ⟨fun o' t' tk' n rk' htk' hrk' hn => ?_, fun k => ?_⟩
    · -- both sides by cases on "this is the topic and the offset just written"
      rw [hr, Map.has_set, hc, Bool.or_eq_true, decide_eq_true_eq,
        recordKey_eq_iff htk' htk hrk' hrk hn (Nat.lt_of_succ_lt hN), hstored o' t' tk' n rk' htk' hrk' hn]
      by_cases hk : tk' = tk
      · subst hk
        rw [if_pos rfl, eq_self, true_and]
        exact or_comm.trans Nat.lt_succ_iff_lt_or_eq.symm
      · rw [if_neg hk]
        exact ⟨fun h => h.resolve_left fun h => hk h.1, .inr⟩
    · rw [hc]
      split
      · exact hN
      · exact hbound k

theorem RecEffect.record_frame {c : AddrCodec} {s s' : State} {r : Resp} (h : RecEffect c s s' r) (hi : RecInv s)
    {k : Bytes} {rec : Record} (hk : s.records.get k = some rec) : s'.records.get k = some rec := by
  match h with
  | .keep hc hr =>
    rw [hr]
    exact hk
  | .append (tk := tk) (rk := rk) _ htk hrk hc hr =>
    -- the key written is that of the offset `total_records`, which the invariant says is free
    have hne : k ≠ rk := by
      intro he
      subst he
      exact Nat.lt_irrefl _ (((recInv_iff.mp hi).1 _ _ _ _ k htk hrk ((recInv_iff.mp hi).2 tk)).mp
        (Map.has_true_iff.mpr ⟨rec, hk⟩))
    rw [hr, Map.get_set_ne hne]
    exact hk

theorem below_step {c : AddrCodec} {s : State} {op : Int × Msg} {B : Nat} (hb : Below s B) :
    Below (step c s op) (B + 1) :=
  step_cases (P := (Below · (B + 1))) (fun k t hg => Nat.le_succ_of_le (hb k t hg)) fun _ _ h => h.toRec.below_succ hb

theorem record_frame_step {c : AddrCodec} {s : State} {op : Int × Msg}
    (hi : RecInv s) (k : Bytes) (rec : Record) (hk : s.records.get k = some rec) :
    (step c s op).records.get k = some rec :=
  step_cases (P := fun s' => s'.records.get k = some rec) hk fun _ _ h => h.toRec.record_frame hi hk

theorem recInv_run {c : AddrCodec} (ops : List (Int × Msg)) {s : State} {B : Nat} (hi : RecInv s) (hb : Below s B)
    (hB : B + ops.length < two64) :
    RecInv (run c s ops) ∧ Below (run c s ops) (B + ops.length) ∧
      ∀ (k : Bytes) (rec : Record), s.records.get k = some rec → (run c s ops).records.get k = some rec :=
  foldl_budget
    (fun B t => RecInv t ∧ Below t B ∧ ∀ k rec, s.records.get k = some rec → t.records.get k = some rec) (step c) two64
    (fun _ _ _ hB ⟨hi, hb, hk⟩ => ⟨step_cases hi fun _ _ h => h.toRec.recInv hi hb hB, below_step hb,
      fun k rec h => record_frame_step hi k rec (hk k rec h)⟩)
    ops B s hB ⟨hi, hb, fun _ _ h => h⟩

end Panacea.Aol
