import Panacea.Model.KV
import Panacea.Lemmas.Bytes
/-! The ordered map.  What `get`, `has` and `keys` answer after `set` / `del` holds of every association list; `m.Sorted` is a
hypothesis only where the order of the entries or the uniqueness of a key matters. -/
namespace Panacea

namespace Map
variable {V : Type}

theorem get_cons (k0 : Bytes) (v0 : V) (m : Map V) (k : Bytes) :
    get ((k0, v0) :: m) k = if k0 = k then some v0 else get m k := rfl

theorem set_cons (k0 : Bytes) (v0 : V) (m : Map V) (k : Bytes) (v : V) :
    set ((k0, v0) :: m) k v =
      if k0 = k then (k, v) :: m else if Bytes.lt k k0 then (k, v) :: (k0, v0) :: m else (k0, v0) :: set m k v := rfl

theorem del_cons (k0 : Bytes) (v0 : V) (m : Map V) (k : Bytes) :
    del ((k0, v0) :: m) k = if k0 = k then del m k else (k0, v0) :: del m k := rfl

theorem keys_append (a b : Map V) : keys (a ++ b) = keys a ++ keys b := List.map_append

theorem sorted_nil : Sorted ([] : Map V) := List.Pairwise.nil

theorem sorted_cons {e : Bytes × V} {m : Map V} :
    Sorted (e :: m) ↔ (∀ k ∈ m.keys, Bytes.lt e.1 k = true) ∧ Sorted m := List.pairwise_cons

theorem sorted_append {a b : Map V} :
    Sorted (a ++ b) ↔ Sorted a ∧ Sorted b ∧ ∀ x ∈ keys a, ∀ y ∈ keys b, Bytes.lt x y = true := by
  unfold Sorted
  rw [keys_append]
  exact List.pairwise_append

theorem get_set (m : Map V) (k k' : Bytes) (v : V) :
    (m.set k v).get k' = if k = k' then some v else m.get k' := by
  induction m with
  | nil => rfl
  | cons e m ih =>
    obtain ⟨k0, v0⟩ := e
    rw [set_cons]
    by_cases h : k0 = k
    · subst h
      rw [if_pos rfl, get_cons, get_cons]
      by_cases h' : k0 = k'
      · rw [if_pos h', if_pos h']
      · rw [if_neg h', if_neg h', if_neg h']
    · rw [if_neg h]
      by_cases hl : Bytes.lt k k0 = true
      · rw [if_pos hl]
        rfl
      · rw [if_neg hl, get_cons, ih, get_cons]
        by_cases h0 : k0 = k'
        · rw [if_pos h0, if_pos h0, if_neg (h0 ▸ Ne.symm h)]
        · rw [if_neg h0, if_neg h0]

theorem get_set_eq {m : Map V} {k : Bytes} {v : V} : (m.set k v).get k = some v := by
  rw [get_set, if_pos rfl]

theorem get_set_ne {m : Map V} {k k' : Bytes} {v : V} (h : k' ≠ k) : (m.set k v).get k' = m.get k' := by
  rw [get_set, if_neg (Ne.symm h)]

theorem get_set_cases {m : Map V} {k k' : Bytes} {v w : V} (h : (m.set k v).get k' = some w) :
    k' = k ∧ w = v ∨ m.get k' = some w := by
  rw [get_set] at h
  split at h
  · next hk => exact .inl ⟨hk.symm, (Option.some.inj h).symm⟩
  · exact .inr h

theorem get_set_all {Q : Bytes → V → Prop} {m : Map V} {k : Bytes} {v : V} (hm : ∀ k x, m.get k = some x → Q k x)
    (hv : Q k v) : ∀ k' x, (m.set k v).get k' = some x → Q k' x := by
  intro k' x h
  rcases get_set_cases h with ⟨rfl, rfl⟩ | h
  · exact hv
  · exact hm k' x h

theorem del_eq_filter (m : Map V) (k : Bytes) : m.del k = m.filter (fun e => e.1 != k) := by
  induction m with
  | nil => rfl
  | cons e m ih => simp only [del, List.filter_cons, ih, bne_iff_ne, ne_eq, ite_not]

theorem get_del (m : Map V) (k k' : Bytes) :
    (m.del k).get k' = if k = k' then none else m.get k' := by
  induction m with
  | nil => exact (ite_self _).symm
  | cons e m ih =>
    obtain ⟨k0, v0⟩ := e
    rw [del_cons, get_cons]
    by_cases h : k0 = k
    · subst h
      rw [if_pos rfl, ih]
      by_cases h' : k0 = k'
      · rw [if_pos h', if_pos h']
      · rw [if_neg h', if_neg h', if_neg h']
    · rw [if_neg h, get_cons, ih]
      by_cases h0 : k0 = k'
      · rw [if_pos h0, if_pos h0, if_neg (h0 ▸ Ne.symm h)]
      · rw [if_neg h0, if_neg h0]

theorem get_del_eq {m : Map V} {k : Bytes} : (m.del k).get k = none := by
  rw [get_del, if_pos rfl]

theorem get_del_ne {m : Map V} {k k' : Bytes} (h : k' ≠ k) : (m.del k).get k' = m.get k' := by
  rw [get_del, if_neg (Ne.symm h)]

theorem get_del_cases {m : Map V} {k k' : Bytes} {w : V} (h : (m.del k).get k' = some w) :
    k' ≠ k ∧ m.get k' = some w := by
  rw [get_del] at h
  split at h
  · cases h
  · next hk => exact ⟨Ne.symm hk, h⟩

theorem get_del_all {Q : Bytes → V → Prop} {m : Map V} {k : Bytes} (hm : ∀ k x, m.get k = some x → Q k x) :
    ∀ k' x, (m.del k).get k' = some x → Q k' x :=
  fun k' x h => hm k' x (get_del_cases h).2

theorem has_set (m : Map V) (k k' : Bytes) (v : V) : (m.set k v).has k' = (decide (k' = k) || m.has k') := by
  unfold has
  rw [get_set]
  by_cases h : k = k'
  · simp [h]
  · simp [h, Ne.symm h]

theorem has_del (m : Map V) (k k' : Bytes) : (m.del k).has k' = (decide (k' ≠ k) && m.has k') := by
  unfold has
  rw [get_del]
  by_cases h : k = k'
  · simp [h]
  · simp [h, Ne.symm h]

theorem has_set_del {m : Map V} {k : Bytes} (h : m.has k = true) (v : V) (k' : Bytes) :
    ((m.del k).set k v).has k' = m.has k' := by
  rw [has_set, has_del]
  by_cases hk : k' = k
  · rw [hk, decide_eq_true rfl, Bool.true_or, h]
  · rw [decide_eq_false hk, Bool.false_or, decide_eq_true hk, Bool.true_and]

theorem has_true_iff {m : Map V} {k : Bytes} : m.has k = true ↔ ∃ v, m.get k = some v :=
  Option.isSome_iff_exists

theorem has_false_iff {m : Map V} {k : Bytes} : m.has k = false ↔ m.get k = none := by
  unfold has
  cases m.get k <;> simp

theorem getD_cases {P : V → Prop} {m : Map V} {k : Bytes} {d : V} (h0 : m.get k = none → P d)
    (h1 : ∀ v, m.get k = some v → P v) : P ((m.get k).getD d) := by
  cases h : m.get k with
  | none => exact h0 h
  | some v => exact h1 v h

theorem has_iff_mem_keys {m : Map V} {k : Bytes} : m.has k = true ↔ k ∈ m.keys := by
  unfold has
  induction m with
  | nil => simp [keys, get]
  | cons e m ih =>
    simp only [get, keys, List.map_cons, List.mem_cons]
    split
    · next h => exact ⟨fun _ => Or.inl h.symm, fun _ => rfl⟩
    · next h => rw [ih, keys, or_iff_right (Ne.symm h)]

theorem get_eq_none_iff {m : Map V} {k : Bytes} : m.get k = none ↔ k ∉ m.keys := by
  rw [← has_false_iff, ← has_iff_mem_keys, Bool.not_eq_true]

theorem mem_keys_set {m : Map V} {k k' : Bytes} {v : V} : k' ∈ (m.set k v).keys ↔ k' = k ∨ k' ∈ m.keys := by
  rw [← has_iff_mem_keys, ← has_iff_mem_keys, has_set, Bool.or_eq_true, decide_eq_true_iff]

theorem mem_keys_del {m : Map V} {k k' : Bytes} : k' ∈ (m.del k).keys ↔ k' ≠ k ∧ k' ∈ m.keys := by
  rw [← has_iff_mem_keys, ← has_iff_mem_keys, has_del, Bool.and_eq_true, decide_eq_true_iff]

theorem mem_of_get {m : Map V} {k : Bytes} {v : V} (h : m.get k = some v) : (k, v) ∈ m := by
  induction m with
  | nil => cases h
  | cons e m ih =>
    obtain ⟨k0, v0⟩ := e
    rw [get_cons] at h
    split at h
    · next he =>
      cases h
      exact he ▸ List.mem_cons_self
    · exact List.mem_cons_of_mem _ (ih h)

theorem get_of_mem_nodup {m : Map V} (hn : m.keys.Nodup) {k : Bytes} {v : V} (h : (k, v) ∈ m) :
    m.get k = some v := by
  induction m with
  | nil => cases h
  | cons e m ih =>
    obtain ⟨k0, v0⟩ := e
    have ⟨h0, hm⟩ := List.nodup_cons.mp hn
    rw [get_cons]
    rcases List.mem_cons.mp h with he | hm'
    · cases he
      exact if_pos rfl
    · have : k0 ≠ k := fun e => h0 (e ▸ List.mem_map_of_mem (f := (·.1)) hm')
      rw [if_neg this, ih hm hm']

theorem sorted_nodup {m : Map V} (hs : m.Sorted) : m.keys.Nodup :=
  List.Pairwise.imp Bytes.lt_ne hs

theorem get_of_mem_sorted {m : Map V} (hs : m.Sorted) {k : Bytes} {v : V} (h : (k, v) ∈ m) : m.get k = some v :=
  get_of_mem_nodup (sorted_nodup hs) h

theorem sorted_set {m : Map V} {k : Bytes} {v : V} (hs : m.Sorted) : (m.set k v).Sorted := by
  induction m with
  | nil => exact sorted_cons.mpr ⟨nofun, sorted_nil⟩
  | cons e m ih =>
    obtain ⟨k0, v0⟩ := e
    have ⟨h0, hm⟩ := sorted_cons.mp hs
    rw [set_cons]
    by_cases hne : k0 = k
    · subst hne
      rw [if_pos rfl]
      exact sorted_cons.mpr ⟨h0, hm⟩
    · rw [if_neg hne]
      by_cases hlt : Bytes.lt k k0 = true
      · rw [if_pos hlt]
        refine sorted_cons.mpr ⟨fun a ha => ?_, hs⟩
        rcases List.mem_cons.mp ha with rfl | ha
        · exact hlt
        · exact Bytes.lt_trans hlt (h0 a ha)
      · rw [if_neg hlt]
        refine sorted_cons.mpr ⟨fun a ha => ?_, ih hm⟩
        rcases mem_keys_set.mp ha with rfl | ha
        · exact (Bytes.lt_trichotomy k0 a).resolve_right (fun h => h.elim hne hlt)
        · exact h0 a ha

theorem del_sublist (m : Map V) (k : Bytes) : (m.del k).Sublist m :=
  del_eq_filter m k ▸ List.filter_sublist

theorem sorted_del {m : Map V} {k : Bytes} (hs : m.Sorted) : (m.del k).Sorted :=
  List.Pairwise.sublist (List.Sublist.map _ (del_sublist m k)) hs

theorem length_set_le (m : Map V) (k : Bytes) (v : V) : (m.set k v).length ≤ m.length + 1 := by
  induction m with
  | nil => exact Nat.le_refl _
  | cons e m ih =>
    unfold set
    split
    · exact Nat.le_succ _
    · split
      · exact Nat.le_refl _
      · exact Nat.succ_le_succ ih

theorem set_append_max (m : Map V) (k : Bytes) (v : V) (h : ∀ k' ∈ m.keys, Bytes.lt k' k = true) :
    m.set k v = m ++ [(k, v)] := by
  induction m with
  | nil => rfl
  | cons e m ih =>
    have h0 : Bytes.lt e.1 k = true := h e.1 List.mem_cons_self
    rw [set, if_neg (Bytes.lt_ne h0), if_neg (by simp [Bytes.lt_asymm h0]),
      ih fun k' hk' => h k' (List.mem_cons_of_mem _ hk')]
    rfl

theorem eq_of_perm_of_sorted {α : Type} {f : α → Bytes} {l l' : List α}
    (hl : l.Pairwise fun a b => Bytes.lt (f a) (f b) = true) (hl' : l'.Pairwise fun a b => Bytes.lt (f a) (f b) = true)
    (hp : l.Perm l') : l = l' := by
  refine hp.eq_of_pairwise (fun a b _ _ hab hba => ?_) hl hl'
  rw [Bytes.lt_asymm hab] at hba
  cases hba

theorem keys_perm {m : Map V} {l : List Bytes} (hs : m.Sorted) (hl : l.Nodup) (h : ∀ k, k ∈ m.keys ↔ k ∈ l) :
    m.keys.Perm l :=
  (List.perm_ext_iff_of_nodup (sorted_nodup hs) hl).mpr h

end Map
end Panacea
