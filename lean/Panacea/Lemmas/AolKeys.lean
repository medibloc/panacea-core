import Panacea.Lemmas.Aol
import Panacea.Properties.C08
/-! The hypothesis of the genesis round-trip theorems (`C08.KeysAdmitted`) is an invariant of the message server, for
histories whose topic names contain no `/`, which stateless validation guarantees
(`C16.admitted_topic_has_no_slash`). -/
namespace Panacea.Aol
open Panacea CompKey

structure KeysInv (s : State) : Prop where
  owners : C08.KeysAdmitted .owner s.owners
  topics : C08.KeysAdmitted .topic s.topics
  writers : C08.KeysAdmitted .writer s.writers
  records : C08.KeysAdmitted .record s.records

theorem be64_mod (n : Nat) : be64 n = be64 (n % 18446744073709551616) :=
  (be64_fromBe64 (fromBe64_be64_mod n)).symm

theorem keysAdmitted_set {V} {k : Kind} {m : Map V} {comps : List Bytes} {key : Bytes} (v : V)
    (h : C08.KeysAdmitted k m) (he : encode comps = some key) (ha : C18.Admitted k comps) :
    C08.KeysAdmitted k (m.set key v) := by
  intro k' hk'
  rcases Map.mem_keys_set.mp hk' with rfl | hm
  · exact ⟨comps, he, ha, C18.decodeTyped_of_admitted he ha⟩
  · exact h k' hm

theorem keysAdmitted_del {V} {k : Kind} {m : Map V} (key : Bytes) (h : C08.KeysAdmitted k m) :
    C08.KeysAdmitted k (m.del key) :=
  fun k' hk' => h k' (Map.mem_keys_del.mp hk').2

theorem keysInv_step (c : AddrCodec) (hc : c.Lawful) (s : State) (op : Int × Msg) (ht : slash ∉ op.2.topic)
    (inv : KeysInv s) : KeysInv (step c s op) := by
  refine step_cases inv fun s' r h => ?_
  obtain ⟨now, m⟩ := op
  -- every key written is the encoding of decoded addresses, the message's topic name and a `be64` offset
  cases h with
  | createTopic ho htk _ hok =>
    exact ⟨keysAdmitted_set _ inv.owners hok (hc.dec_ok _ _ ho),
      keysAdmitted_set _ inv.topics htk ⟨hc.dec_ok _ _ ho, ht⟩, inv.writers, inv.records⟩
  | addWriter ho hw htk _ hwk _ =>
    exact ⟨inv.owners, keysAdmitted_set _ inv.topics htk ⟨hc.dec_ok _ _ ho, ht⟩,
      keysAdmitted_set _ inv.writers hwk ⟨hc.dec_ok _ _ ho, ht, hc.dec_ok _ _ hw⟩, inv.records⟩
  | deleteWriter ho _ htk _ _ =>
    exact ⟨inv.owners, keysAdmitted_set _ inv.topics htk ⟨hc.dec_ok _ _ ho, ht⟩,
      keysAdmitted_del _ inv.writers, inv.records⟩
  | addRecord ho _ htk _ _ _ hrk =>
    exact ⟨inv.owners, keysAdmitted_set _ inv.topics htk ⟨hc.dec_ok _ _ ho, ht⟩, inv.writers,
      keysAdmitted_set _ inv.records hrk ⟨hc.dec_ok _ _ ho, ht, _, Nat.mod_lt _ (by decide), be64_mod _⟩⟩

theorem keysInv_empty : KeysInv {} := by
  refine ⟨?_, ?_, ?_, ?_⟩
  all_goals
    intro k hk
    cases hk

theorem keysInv_run (c : AddrCodec) (hc : c.Lawful) (ops : List (Int × Msg)) (ht : ∀ op ∈ ops, slash ∉ op.2.topic) :
    ∀ s, KeysInv s → KeysInv (run c s ops) := by
  intro s h
  exact List.foldlRecOn (motive := KeysInv) ops _ h fun s hs op hop => keysInv_step c hc s op (ht op hop) hs

end Panacea.Aol
