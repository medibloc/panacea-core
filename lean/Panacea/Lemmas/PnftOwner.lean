import Panacea.Lemmas.PnftInv
/-! `OInv`: the `x/nft` owner table (token ↦ owner) has exactly the token keys, and the owner index
(`0x03 ‖ len(owner) ‖ owner ‖ 0 ‖ class ‖ 0 ‖ id`) one entry per token, under its current owner.  `IdxInv` is the half
of it about the two owner tables alone: `setOwner` and `deleteOwner` preserve it, a transfer is the one after the
other. -/
namespace Panacea.Pnft
open Panacea CompKey Validate Map

theorem ownerIdxKey_inj {o o' d d' i i' : Bytes} (ho : o.length < 256) (ho' : o'.length < 256)
    (hd : NoNul d) (hd' : NoNul d') (h : ownerIdxKey o d i = ownerIdxKey o' d' i') : o = o' ∧ d = d' ∧ i = i' := by
  simp only [ownerIdxKey, ownerIdxPrefix, List.cons_append, List.append_assoc, List.nil_append,
    List.cons.injEq] at h
  -- the length byte says where the owner ends; what follows its delimiter is a token key
  obtain ⟨h1, h2⟩ := List.append_inj h.2 (uint8_ofNat_inj ho ho' h.1)
  exact ⟨h1, nftKey_inj hd hd' (List.cons.inj h2).2⟩

/-- `ownerIdxPrefix o d` is the prefix `Query/PNFTsByDenomOwner` iterates over. -/
theorem ownerIdxPrefix_iff {o o' d d' i' : Bytes} (ho : o.length < 256) (ho' : o'.length < 256)
    (hd : NoNul d) (hd' : NoNul d') :
    ownerIdxPrefix o d <+: ownerIdxKey o' d' i' ↔ o = o' ∧ d = d' := by
  constructor
  · rintro ⟨t, ht⟩
    obtain ⟨h1, h2, -⟩ := ownerIdxKey_inj (i := t) ho ho' hd hd' ht
    exact ⟨h1, h2⟩
  · rintro ⟨rfl, rfl⟩
    exact List.prefix_append _ _

structure OInv (s : State) : Prop where
  sortedO : s.owners.Sorted
  sortedI : s.ownerIdx.Sorted
  ownerOfToken : ∀ k n, s.nfts.get k = some n → ∃ o, s.owners.get k = some o
  tokenOfOwner : ∀ k o, s.owners.get k = some o → s.nfts.has k = true ∧ o.length < 256
  idxWF : ∀ k, s.ownerIdx.has k = true →
    ∃ o d i, k = ownerIdxKey o d i ∧ NoNul d ∧ NoNul i ∧ s.owners.get (nftKey d i) = some o
  idxOfOwner : ∀ d i o, NoNul d → NoNul i → s.owners.get (nftKey d i) = some o →
    s.ownerIdx.has (ownerIdxKey o d i) = true

structure IdxInv (ow : Map Bytes) (ix : Map Unit) : Prop where
  sortedO : ow.Sorted
  sortedI : ix.Sorted
  short : ∀ k o, ow.get k = some o → o.length < 256
  idxWF : ∀ k, ix.has k = true → ∃ o d i, k = ownerIdxKey o d i ∧ NoNul d ∧ NoNul i ∧ ow.get (nftKey d i) = some o
  idxOfOwner : ∀ d i o, NoNul d → NoNul i → ow.get (nftKey d i) = some o → ix.has (ownerIdxKey o d i) = true

theorem OInv.idx {s : State} (hi : OInv s) : IdxInv s.owners s.ownerIdx :=
  ⟨hi.sortedO, hi.sortedI, fun k o h => (hi.tokenOfOwner k o h).2, hi.idxWF, hi.idxOfOwner⟩

theorem OInv.has_owner {s : State} (hi : OInv s) (k : Bytes) : s.owners.has k = s.nfts.has k := by
  rw [Bool.eq_iff_iff]
  constructor
  · intro h
    obtain ⟨o, ho⟩ := has_true_iff.mp h
    exact (hi.tokenOfOwner k o ho).1
  · intro h
    obtain ⟨n, hn⟩ := has_true_iff.mp h
    exact has_true_iff.mpr (hi.ownerOfToken k n hn)

theorem OInv.owner_none {s : State} (hi : OInv s) {k : Bytes} (h : s.nfts.get k = none) : s.owners.get k = none :=
  has_false_iff.mp ((hi.has_owner k).trans (has_false_iff.mpr h))

theorem OInv.owner_eq {s : State} (hi : OInv s) {d i : Bytes} {n : Nft} (h : s.nfts.get (nftKey d i) = some n) :
    s.owners.get (nftKey d i) = some (getOwner s d i) := by
  obtain ⟨o, ho⟩ := hi.ownerOfToken _ n h
  rw [getOwner, ho]
  rfl

theorem oinv_of_idx {s : State} (hx : IdxInv s.owners s.ownerIdx) (hk : ∀ k, s.owners.has k = s.nfts.has k) :
    OInv s := by
  refine ⟨hx.sortedO, hx.sortedI, ?_, ?_, hx.idxWF, hx.idxOfOwner⟩
  · intro k n hg
    exact has_true_iff.mp ((hk k).trans (has_true_iff.mpr ⟨n, hg⟩))
  · intro k o hg
    exact ⟨(hk k).symm.trans (has_true_iff.mpr ⟨o, hg⟩), hx.short k o hg⟩

theorem IdxInv.set {ow : Map Bytes} {ix : Map Unit} (h : IdxInv ow ix) {d i o : Bytes} (hd : NoNul d) (hid : NoNul i)
    (hol : o.length < 256) (hnone : ow.get (nftKey d i) = none) :
    IdxInv (ow.set (nftKey d i) o) (ix.set (ownerIdxKey o d i) ()) := by
  refine ⟨sorted_set h.sortedO, sorted_set h.sortedI, get_set_all h.short hol, ?_, ?_⟩
  · intro k hk
    rw [has_set, Bool.or_eq_true, decide_eq_true_iff] at hk
    rcases hk with rfl | hk
    · exact ⟨o, d, i, rfl, hd, hid, get_set_eq⟩
    · obtain ⟨o', d', i', rfl, hd', hi', hg⟩ := h.idxWF k hk
      have hne : nftKey d' i' ≠ nftKey d i := fun he => by
        rw [he, hnone] at hg
        cases hg
      exact ⟨o', d', i', rfl, hd', hi', (get_set_ne hne).trans hg⟩
  · intro d' i' o' hd' hi' hg
    rw [has_set]
    rcases get_set_cases hg with ⟨hk, rfl⟩ | hg
    · obtain ⟨rfl, rfl⟩ := nftKey_inj hd' hd hk
      rw [decide_eq_true rfl, Bool.true_or]
    · rw [h.idxOfOwner d' i' o' hd' hi' hg, Bool.or_true]

theorem IdxInv.del {ow : Map Bytes} {ix : Map Unit} (h : IdxInv ow ix) {d i o : Bytes} (hd : NoNul d)
    (hcur : ow.get (nftKey d i) = some o) : IdxInv (ow.del (nftKey d i)) (ix.del (ownerIdxKey o d i)) := by
  refine ⟨sorted_del h.sortedO, sorted_del h.sortedI, get_del_all h.short, ?_, ?_⟩
  · intro k hk
    rw [has_del, Bool.and_eq_true, decide_eq_true_iff] at hk
    obtain ⟨o', d', i', rfl, hd', hi', hg⟩ := h.idxWF k hk.2
    have hne : nftKey d' i' ≠ nftKey d i := fun he => by
      obtain ⟨rfl, rfl⟩ := nftKey_inj hd' hd he
      cases hcur.symm.trans hg
      exact hk.1 rfl
    exact ⟨o', d', i', rfl, hd', hi', (get_del_ne hne).trans hg⟩
  · intro d' i' o' hd' hi' hg
    obtain ⟨hne, hg⟩ := get_del_cases hg
    rw [has_del, h.idxOfOwner d' i' o' hd' hi' hg, Bool.and_true, decide_eq_true_iff]
    intro he
    obtain ⟨-, rfl, rfl⟩ := ownerIdxKey_inj (h.short _ _ hg) (h.short _ _ hcur) hd' hd he
    exact hne rfl

/-- `hi`, `hnone` and `htok` cannot be met together; what `setOwner` preserves is `IdxInv.set`. -/
theorem oinv_setOwner {s : State} (hp : PInv s) (hi : OInv s) (d i o : Bytes) (hd : NoNul d) (hid : NoNul i)
    (hol : o.length < 256) (hnone : s.owners.get (nftKey d i) = none)
    (hpend : ∀ k n, s.nfts.get k = some n → k ≠ nftKey d i → ∃ o', s.owners.get k = some o')
    (htok : s.nfts.has (nftKey d i) = true)
    (htk : ∀ k o', s.owners.get k = some o' → s.nfts.has k = true ∧ o'.length < 256) :
    OInv (setOwner s d i o) := by
  rw [← hi.has_owner, has_iff_isSome, hnone] at htok
  cases htok

/-- decoded addresses are shorter than 256 bytes (`sdk.VerifyAddressFormat`; `AddrCodec.Lawful.dec_ok`) -/
def DecShort (c : AddrCodec) : Prop := ∀ t a, c.dec t = some a → a.length < 256

theorem oinv_step {c : AddrCodec} (hc : DecShort c) {now : Int} {s s' : State} {m : PnftMsg}
    (hp : PInv s) (hi : OInv s) (h : Effect c now s m s') : OInv s' := by
  cases h with
  | createDenom | updateDenom | deleteDenom | transferDenom => exact oinv_of_idx hi.idx hi.has_owner
  | mintPNFT hdn hid hget hown hdec hnew =>
    rw [(hp.classKey _ _ hget).1] at hnew ⊢
    refine oinv_of_idx (hi.idx.set hdn hid (hc _ _ hdec) (hi.owner_none hnew)) fun k => ?_
    show (s.owners.set _ _).has k = (s.nfts.set _ _).has k
    rw [has_set, has_set, hi.has_owner]
  | transferPNFT hget hown hdec hcls =>
    have hdn := hp.noNul_of_hasClass hcls
    refine oinv_of_idx (((hi.idx.del hdn (hi.owner_eq hget)).set hdn (hp.noNul_of_get hdn hget) (hc _ _ hdec)
      get_del_eq)) fun k => ?_
    show ((s.owners.del _).set _ _).has k = s.nfts.has k
    rw [has_set_del (has_true_iff.mpr ⟨_, hi.owner_eq hget⟩), hi.has_owner]
  | burnPNFT hget hown hcls =>
    refine oinv_of_idx (hi.idx.del (hp.noNul_of_hasClass hcls) (hi.owner_eq hget)) fun k => ?_
    show (s.owners.del _).has k = (s.nfts.del _).has k
    rw [has_del, has_del, hi.has_owner]

end Panacea.Pnft
