import Panacea.Lemmas.Varint
import Panacea.Lemmas.KV
import Panacea.Lemmas.Outcome
/-!
# x/did: what an accepted message establishes

`deliver_holds` is the one walk down `deliver` (`validateBasic`, then `handle`): what it returns is `Accepted`, and the
handlers add no panic; Update and Deactivate run the same checks (`live_check`, then `verifyOwnership`).
-/
namespace Panacea.Did
open Panacea Outcome

/-- The key and proof a successful ownership verification used. -/
structure Proven (cr : Crypto) (signData : Bytes) (seq : Nat) (stored : Doc) (vmID sig : Bytes) (vm : VM) : Prop where
  resolved : vmFrom stored stored.auths vmID = some vm
  keyType : vm.type = es256k2019 ∨ vm.type = es256k2018
  keyLen : (b58Decode vm.pubKeyB58).length = 33
  verified : cr.verify (b58Decode vm.pubKeyB58) (signBytes signData seq) sig = true
  noWrap : nextSeq seq ≠ 0      -- the handler refuses at the end of the sequence space (F23)

variable {Q : Prop}

theorem verifyOwnership_holds (cr : Crypto) (sd : Bytes) (seq : Nat) (doc : Doc) (vmID sig : Bytes) :
    (verifyOwnership cr sd seq doc vmID sig).Holds
      (fun n => n = nextSeq seq ∧ ∃ vm, Proven cr sd seq doc vmID sig vm) Q := by
  unfold verifyOwnership
  split
  · trivial
  · rename_i vm hv
    refine Holds.ite_err fun ht => Holds.ite_err fun hl =>
      Holds.ite (fun hver => Holds.ite_err fun hz => ?_) fun _ => trivial
    exact ⟨rfl, vm, hv, Decidable.or_iff_not_not_and_not.mpr ht, Decidable.not_not.mp hl, hver, hz⟩

theorem verifyOwnership_ok_ne_zero {cr : Crypto} {sd : Bytes} {seq : Nat} {doc : Doc} {vmID sig : Bytes} {n : Nat}
    (h : verifyOwnership cr sd seq doc vmID sig = .ok n) : n ≠ 0 := by
  obtain ⟨rfl, _, hp⟩ := (verifyOwnership_holds (Q := False) ..).of_eq_ok h
  exact hp.noWrap

def Msg.did : Msg → Bytes
  | .create did .. | .update did .. | .deactivate did .. => did

variable {da : Bytes → Option Bytes} {cr : Crypto} {s s' : State} {m : Msg} {did sd vmID sig : Bytes}

theorem getDoc_cases {P : DocWithSeq → Prop} (s : State) (did : Bytes)
    (h0 : s.get did = none → P { doc := none, seq := 0, docBytes := [] })
    (h1 : ∀ e, s.get did = some e → P e) : P (getDoc s did) :=
  Map.getD_cases h0 h1

theorem getDoc_of_get {d : DocWithSeq} (h : s.get did = some d) : getDoc s did = d := by
  simp only [getDoc, h, Option.getD_some]

theorem get_of_getDoc_doc {doc : Doc} (h : (getDoc s did).doc = some doc) :
    ∃ e, s.get did = some e ∧ e.doc = some doc :=
  getDoc_cases (P := fun e => e.doc = some doc → ∃ e, s.get did = some e ∧ e.doc = some doc) s did
    (fun _ h => nomatch h) (fun e hg h => ⟨e, hg, h⟩) h

theorem getDoc_set_eq (s : State) (did : Bytes) (v : DocWithSeq) : getDoc (s.set did v) did = v :=
  getDoc_of_get Map.get_set_eq

theorem getDoc_set_ne (s : State) (did did' : Bytes) (v : DocWithSeq) (h : did' ≠ did) :
    getDoc (s.set did v) did' = getDoc s did' := by
  simp only [getDoc, Map.get_set_ne h]

theorem DocWithSeq.isEmpty_eq_false_iff {e : DocWithSeq} :
    e.isEmpty = false ↔ ∃ doc, e.doc = some doc ∧ (doc.empty = false ∨ e.seq ≠ 0) := by
  unfold DocWithSeq.isEmpty
  cases e.doc with
  | none => simp
  | some doc => cases he : doc.empty <;> simp [he]

theorem DocWithSeq.deactivated_eq_ok {e : DocWithSeq} {doc : Doc} (h : e.doc = some doc) :
    e.deactivated = .ok (doc.empty && decide (e.seq ≠ 0)) := by
  simp only [DocWithSeq.deactivated, h]

/-- The checks Update, Deactivate and `queryDID` begin with. -/
theorem live_check {α} {P : α → Prop} {cur : DocWithSeq} {e1 e2 : String} {k : Outcome α}
    (h : ∀ stored, cur.doc = some stored → stored.empty = false → Holds P Q k) :
    Holds P Q (if cur.isEmpty = true then .err e1 else do
      let dead ← cur.deactivated
      if dead = true then .err e2 else k) := by
  refine Holds.ite_err fun h1 => ?_
  obtain ⟨stored, hd, hlive⟩ := DocWithSeq.isEmpty_eq_false_iff.mp (Bool.eq_false_iff.mpr h1)
  rw [DocWithSeq.deactivated_eq_ok hd, Outcome.ok_bind]
  refine Holds.ite_err fun h3 => h stored hd ?_
  -- an empty document with a sequence other than 0 is what `deactivated` tests for
  rcases hlive with he | hs
  · exact he
  · simpa [hs] using h3

theorem validateBasic_update_eq_create {doc : Option Doc} {db fr : Bytes} :
    validateBasic da (.update did doc db vmID sig fr) = validateBasic da (.create did doc db vmID sig fr) := rfl

theorem validateBasic_create_eq_ok {doc : Option Doc} {db fr : Bytes} :
    validateBasic da (.create did doc db vmID sig fr) = .ok () ↔
      validateDID did = true ∧ (∃ d, doc = some d ∧ d.valid = true ∧ d.id = did) ∧ sig ≠ [] ∧ (da fr).isSome = true := by
  cases doc <;> simp only [validateBasic, Outcome.ite_err_eq_ok]
  all_goals simp [and_assoc, Option.isSome_iff_ne_none]

theorem validateBasic_deactivate_eq_ok {fr : Bytes} :
    validateBasic da (.deactivate did vmID sig fr) = .ok () ↔
      validateDID did = true ∧ sig ≠ [] ∧ (da fr).isSome = true := by
  simp only [validateBasic, Outcome.ite_err_eq_ok]
  simp [Option.isSome_iff_ne_none]

/-- The entry under `did` holds a non-empty document, and `(vmID, sig)` is `Proven` against that document at its
sequence over `sd`. -/
def LiveProof (cr : Crypto) (s : State) (did sd vmID sig : Bytes) : Prop :=
  ∃ stored vm, (getDoc s did).doc = some stored ∧ stored.empty = false ∧
    Proven cr sd (getDoc s did).seq stored vmID sig vm

inductive Accepted (cr : Crypto) (s : State) : Msg → State → Prop where
  | create {did : Bytes} {d : Doc} {db vmID sig fr : Bytes} {vm : VM} (hvd : validateDID did = true)
      (hvalid : d.valid = true) (hid : d.id = did) (hemp : (getDoc s did).isEmpty = true)
      (hp : Proven cr db 0 d vmID sig vm) :
      Accepted cr s (.create did (some d) db vmID sig fr) (s.set did { doc := some d, seq := 0, docBytes := db })
  | update {did : Bytes} {d : Doc} {db vmID sig fr : Bytes} (hvd : validateDID did = true)
      (hvalid : d.valid = true) (hid : d.id = did) (hp : LiveProof cr s did db vmID sig) :
      Accepted cr s (.update did (some d) db vmID sig fr)
        (s.set did { doc := some d, seq := nextSeq (getDoc s did).seq, docBytes := db })
  | deactivate {did vmID sig fr : Bytes} (hvd : validateDID did = true)
      (hp : LiveProof cr s did (marshalIdOnly did) vmID sig) :
      Accepted cr s (.deactivate did vmID sig fr)
        (s.set did { doc := some emptyDoc, seq := nextSeq (getDoc s did).seq, docBytes := [] })

theorem deliver_holds (da : Bytes → Option Bytes) (cr : Crypto) (s : State) (m : Msg) :
    (deliver da cr s m).Holds (Accepted cr s m) ((validateBasic da m).isPanic = true) := by
  unfold deliver
  cases hv : validateBasic da m with
  | err e => trivial
  | panic e => exact rfl
  | ok u =>
    rw [Outcome.ok_bind]
    cases m with
    | create did doc db vmID sig fr =>
      obtain ⟨hvd, ⟨d, rfl, hvalid, hid⟩, _⟩ := validateBasic_create_eq_ok.mp hv
      refine Holds.ite (fun he => ?_) fun hemp =>
        (verifyOwnership_holds ..).bind fun _ ⟨_, vm, hp⟩ => .create hvd hvalid hid (by simpa using hemp) hp
      -- an occupied identifier is refused either way; an entry that is not empty has a document to test
      obtain ⟨d0, hd0, -⟩ := DocWithSeq.isEmpty_eq_false_iff.mp (by simpa using he)
      rw [DocWithSeq.deactivated_eq_ok hd0, Outcome.ok_bind]
      exact Holds.ite_err fun _ => trivial
    | update did doc db vmID sig fr =>
      obtain ⟨hvd, ⟨d, rfl, hvalid, hid⟩, _⟩ := validateBasic_create_eq_ok.mp (validateBasic_update_eq_create ▸ hv)
      refine live_check fun stored hst hne => ?_
      simp only [hst]
      exact (verifyOwnership_holds ..).bind fun n ⟨hn, vm, hp⟩ => hn ▸ .update hvd hvalid hid ⟨stored, vm, hst, hne, hp⟩
    | deactivate did vmID sig fr =>
      refine live_check fun stored hst hne => ?_
      simp only [hst]
      exact (verifyOwnership_holds ..).bind fun n ⟨hn, vm, hp⟩ =>
        hn ▸ .deactivate (validateBasic_deactivate_eq_ok.mp hv).1 ⟨stored, vm, hst, hne, hp⟩

theorem accepted (h : deliver da cr s m = .ok s') : Accepted cr s m s' :=
  (deliver_holds da cr s m).of_eq_ok h

theorem Accepted.frame (h : Accepted cr s m s') {did : Bytes} (hne : did ≠ m.did) : s'.get did = s.get did := by
  cases h <;> exact Map.get_set_ne hne

theorem rejected (h : ∀ s', ¬ Accepted cr s m s') : (deliver da cr s m).isOk = false :=
  Outcome.isOk_eq_false fun s' h' => h s' (accepted h')

theorem rejected_of_no_liveProof (h : ∀ sd, ¬ LiveProof cr s did sd vmID sig) (doc : Option Doc) (db fr : Bytes) :
    (deliver da cr s (.update did doc db vmID sig fr)).isOk = false ∧
    (deliver da cr s (.deactivate did vmID sig fr)).isOk = false :=
  ⟨rejected fun _ h' => by cases h' with | update _ _ _ hp => exact h _ hp,
   rejected fun _ h' => by cases h' with | deactivate _ hp => exact h _ hp⟩

theorem not_accepted_create {doc : Option Doc} {db fr : Bytes}
    (hne : (getDoc s did).isEmpty = false) : ¬ Accepted cr s (.create did doc db vmID sig fr) s' := by
  intro h
  cases h with
  | create _ _ _ hemp => cases hne.symm.trans hemp

theorem queryDID_holds (s : State) (did : Bytes) : (queryDID s did).Holds
    (fun cur => cur = getDoc s did ∧ ∃ stored, cur.doc = some stored ∧ stored.empty = false) False :=
  live_check fun stored hd hne => ⟨rfl, stored, hd, hne⟩

theorem step_cases {P : State → Prop} (h0 : P s)
    (h1 : ∀ s', deliver da cr s m = .ok s' → Accepted cr s m s' → P s') : P (step da cr s m) := by
  unfold step
  split
  · next s' h => exact h1 s' h (accepted h)
  · exact h0

theorem step_of_ok (h : deliver da cr s m = .ok s') : step da cr s m = s' := by
  unfold step
  rw [h]

theorem step_of_not_ok (h : (deliver da cr s m).isOk = false) : step da cr s m = s :=
  step_cases (P := (· = s)) rfl fun s' h' _ => by
    rw [h'] at h
    cases h

theorem vmFrom_some {d : Doc} {rels : List Rel} {id : Bytes} {vm : VM} (h : vmFrom d rels id = some vm) :
    (Rel.dedicated vm ∈ rels ∧ vm.id = id) ∨ (Rel.ref id ∈ rels ∧ vmByID d.vms id = some vm) := by
  induction rels with
  | nil => cases h
  | cons r rs ih =>
    have tail : vmFrom d rs id = some vm → _ := fun h =>
      (ih h).imp (And.imp_left (List.mem_cons_of_mem r)) (And.imp_left (List.mem_cons_of_mem r))
    cases r with
    | dedicated v =>
      simp only [vmFrom] at h
      split at h
      · cases h; exact .inl ⟨List.mem_cons_self, ‹_›⟩
      · exact tail h
    | ref rid =>
      simp only [vmFrom] at h
      split at h
      · subst rid; exact .inr ⟨List.mem_cons_self, h⟩
      · exact tail h

theorem nodup_iff (l : List Bytes) : nodup l = true ↔ l.Nodup := by
  induction l with
  | nil => simp [nodup]
  | cons x l ih => simp [nodup, ih]

end Panacea.Did
