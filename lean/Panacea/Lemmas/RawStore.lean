import Panacea.Lemmas.MapExt
import Panacea.Lemmas.MapVals
/-! `set` / `del` on a raw store (keys `p ++ k`) seen through `prefixView p` (keys `k`): the translated keeper code works on
the module's single raw store, the models keep one typed table per prefix.  Both sides of each equation are sorted, so they
are compared key by key (`ext_sorted`). -/
namespace Panacea.Map
variable {V : Type}

theorem prefixView_set_same (m : Map V) (hs : m.Sorted) (p k : Bytes) (v : V) :
    (m.set (p ++ k) v).prefixView p = Map.set (m.prefixView p) k v := by
  apply ext_sorted _ _ (prefixView_sorted (sorted_set hs) p) (sorted_set (prefixView_sorted hs p))
  intro k'
  rw [get_prefixView, get_set, get_set, get_prefixView]
  simp only [List.append_cancel_left_eq]

theorem prefixView_del_same (m : Map V) (hs : m.Sorted) (p k : Bytes) :
    (m.del (p ++ k)).prefixView p = Map.del (m.prefixView p) k := by
  apply ext_sorted _ _ (prefixView_sorted (sorted_del hs) p) (sorted_del (prefixView_sorted hs p))
  intro k'
  rw [get_prefixView, get_del, get_del, get_prefixView]
  simp only [List.append_cancel_left_eq]

theorem prefixView_set_other (m : Map V) (hs : m.Sorted) (p k : Bytes) (v : V) (h : p.isPrefixOf k = false) :
    (m.set k v).prefixView p = m.prefixView p := by
  apply ext_sorted _ _ (prefixView_sorted (sorted_set hs) p) (prefixView_sorted hs p)
  intro k'
  rw [get_prefixView, get_prefixView, get_set_ne]
  rintro rfl
  rw [Bytes.isPrefixOf_append] at h
  cases h

theorem prefixView_del_other (m : Map V) (hs : m.Sorted) (p k : Bytes) (h : p.isPrefixOf k = false) :
    (m.del k).prefixView p = m.prefixView p := by
  apply ext_sorted _ _ (prefixView_sorted (sorted_del hs) p) (prefixView_sorted hs p)
  intro k'
  rw [get_prefixView, get_prefixView, get_del_ne]
  rintro rfl
  rw [Bytes.isPrefixOf_append] at h
  cases h

end Panacea.Map
