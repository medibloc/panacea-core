import Panacea.Model.Paginate
import Panacea.Lemmas.Bytes
import Panacea.Lemmas.Outcome
/-! `query.Paginate`: an offset page is a slice of the listing in iteration order (`ordered`); a walk that follows
`next_key`, in either direction, requests consecutive slices and so returns the whole listing exactly once. -/
namespace Panacea.Paginate
open Panacea

variable {V : Type}

def SortedItems (items : List (Bytes × V)) : Prop := (items.map (·.1)).Pairwise (fun a b => Bytes.lt a b = true)

def ordered (items : List (Bytes × V)) (rev : Bool) : List (Bytes × V) := if rev then items.reverse else items

theorem mem_ordered {items : List (Bytes × V)} {rev : Bool} {e : Bytes × V} : e ∈ ordered items rev ↔ e ∈ items := by
  cases rev <;> simp [ordered]

theorem length_ordered (items : List (Bytes × V)) (rev : Bool) : (ordered items rev).length = items.length := by
  cases rev <;> simp [ordered]

theorem iterFrom_nil (items : List (Bytes × V)) (rev : Bool) : iterFrom items [] rev = .ok (ordered items rev) := by
  unfold iterFrom ordered
  cases rev <;> simp

theorem iterFrom_subset {items it : List (Bytes × V)} {start : Bytes} {rev : Bool}
    (h : iterFrom items start rev = .ok it) : ∀ e ∈ it, e ∈ items := by
  unfold iterFrom at h
  split at h
  · cases h
    split
    · exact fun _ he => he
    · exact fun _ he => (List.mem_filter.mp he).1
  · split at h
    · cases h
      exact fun _ => List.mem_reverse.mp
    · split at h
      · cases h
        exact fun _ => List.mem_reverse.mp
      · cases h
      · cases h
        exact fun _ he => (List.mem_filter.mp (List.mem_reverse.mp he)).1

theorem paginate_of_key (items : List (Bytes × V)) {req : PageRequest} (hk : req.key ≠ []) :
    paginate items req =
      if req.offset > 0 then .err "offset-and-key"
      else pageByKey items req.key req.reverse (if req.limit = 0 then defaultLimit else req.limit) := by
  simp only [paginate, hk, ne_eq, not_false_eq_true, and_true, if_true]

theorem paginate_of_nokey (items : List (Bytes × V)) {req : PageRequest} (hk : req.key = []) :
    paginate items req =
      pageByOffset items req.offset (if req.limit = 0 then defaultLimit else req.limit)
        (if req.limit = 0 then true else req.countTotal) req.reverse := by
  simp only [paginate, hk, ne_eq, not_true_eq_false, and_false, if_false]

theorem pageByOffset_eq (items : List (Bytes × V)) (o l : Nat) (ct rev : Bool) :
    pageByOffset items o l ct rev =
      .ok (((ordered items rev).drop o).take (wrap64 (o + l) - o),
        { nextKey := if wrap64 (o + l) + 1 < 18446744073709551616 ∧ o < wrap64 (o + l) + 1 then
            keyAt (ordered items rev) (wrap64 (o + l)) else [],
          total := if ct then items.length else 0 }) := by
  simp only [pageByOffset, iterFrom_nil, length_ordered]

theorem pageByKey_eq (items : List (Bytes × V)) (key : Bytes) (rev : Bool) (limit : Nat) :
    pageByKey items key rev limit =
      iterFrom items key rev >>= fun it => .ok (it.take limit, { nextKey := keyAt it limit, total := 0 }) := by
  unfold pageByKey
  cases iterFrom items key rev <;> rfl

theorem pageByKey_ok {items res : List (Bytes × V)} {key : Bytes} {rev : Bool} {limit : Nat} {page : PageResponse}
    (h : pageByKey items key rev limit = .ok (res, page)) :
    ∃ it, iterFrom items key rev = .ok it ∧ res = it.take limit := by
  obtain ⟨it, hi, h⟩ := Outcome.bind_eq_ok.mp (pageByKey_eq .. ▸ h)
  cases h
  exact ⟨it, hi, rfl⟩

theorem paginate_subset {items res : List (Bytes × V)} {req : PageRequest} {page : PageResponse}
    (h : paginate items req = .ok (res, page)) : ∀ e ∈ res, e ∈ items := by
  by_cases hk : req.key = []
  · rw [paginate_of_nokey items hk, pageByOffset_eq] at h
    cases h
    exact fun e he => mem_ordered.mp (List.mem_of_mem_drop (List.mem_of_mem_take he))
  · rw [paginate_of_key items hk] at h
    split at h
    · cases h
    · obtain ⟨it, hi, rfl⟩ := pageByKey_ok h
      exact fun e he => iterFrom_subset hi e (List.mem_of_mem_take he)

theorem offset_page_eq (items : List (Bytes × V)) (o l : Nat) (ct rev : Bool) (hl : 0 < l)
    (hlim : o + l + 1 < 18446744073709551616) :
    paginate items { offset := o, limit := l, countTotal := ct, reverse := rev } =
      .ok (((ordered items rev).drop o).take l,
        { nextKey := keyAt (ordered items rev) (o + l),
          total := if ct then items.length else 0 }) := by
  have hl0 : l ≠ 0 := by omega
  have hw : wrap64 (o + l) = o + l := Nat.mod_eq_of_lt (by omega)
  have hc : o + l + 1 < 18446744073709551616 ∧ o < o + l + 1 := ⟨hlim, by omega⟩
  rw [paginate_of_nokey items rfl, pageByOffset_eq]
  simp only [hl0, if_false, hw, hc, and_self, if_true, Nat.add_sub_cancel_left]

theorem offset_pages_concat (L : List (Bytes × V)) (l : Nat) :
    ∀ k, ((List.range k).map fun j => (L.drop (j * l)).take l).flatten = L.take (k * l) := by
  intro k
  induction k with
  | zero => simp
  | succ k ih =>
    rw [List.range_succ, List.map_append, List.flatten_append, ih]
    simp only [List.map_cons, List.map_nil, List.flatten_cons, List.flatten_nil, List.append_nil]
    rw [Nat.succ_mul, List.take_add]

theorem sorted_cut {A B : List (Bytes × V)} {e : Bytes × V} (hs : SortedItems (A ++ e :: B)) :
    (A ++ e :: B).filter (fun x => Bytes.lt x.1 e.1) = A ∧ (A ++ e :: B).filter (fun x => !Bytes.lt x.1 e.1) = e :: B := by
  obtain ⟨_, hB, hAB⟩ := List.pairwise_append.mp (List.pairwise_map.mp hs)
  have h1 : ∀ x ∈ A, Bytes.lt x.1 e.1 = true := fun x hx => hAB x hx e List.mem_cons_self
  have h2 : ∀ x ∈ e :: B, Bytes.lt x.1 e.1 = false := by
    intro x hx
    rcases List.mem_cons.mp hx with rfl | hx
    · exact Bytes.lt_irrefl _
    · exact Bytes.lt_asymm ((List.pairwise_cons.mp hB).1 x hx)
  rw [List.filter_append, List.filter_append, List.filter_eq_self.mpr h1,
    List.filter_eq_nil_iff.mpr (fun x hx => by simp [h2 x hx]), List.filter_eq_nil_iff.mpr (fun x hx => by simp [h1 x hx]),
    List.filter_eq_self.mpr (fun x hx => by simp [h2 x hx])]
  exact ⟨List.append_nil _, rfl⟩

/-- `P ≠ []`: in reverse mode the first entry in iteration order is the last stored entry, on whose key the SDK panics
(F14, `Properties/C17`); a walk never sends it. -/
theorem iterFrom_key {items P S : List (Bytes × V)} {e : Bytes × V} (hs : SortedItems items) (rev : Bool)
    (hL : ordered items rev = P ++ e :: S) (hP : P ≠ []) (hene : e.1 ≠ []) : iterFrom items e.1 rev = .ok (e :: S) := by
  unfold iterFrom
  cases rev with
  | false =>
    obtain rfl : items = P ++ e :: S := hL
    simp only [Bool.not_false, if_true, hene, if_false, (sorted_cut hs).2]
  | true =>
    have hi : items = S.reverse ++ e :: P.reverse := by
      have : items.reverse = P ++ e :: S := hL
      rw [← List.reverse_reverse items, this]
      simp
    cases hp : P.reverse with
    | nil => exact absurd (List.reverse_eq_nil_iff.mp hp) hP
    | cons e2 P' =>
      -- the iterator is placed on `e2`, the entry after `e`, and runs down from before it
      rw [hp] at hi
      subst hi
      have hs2 : SortedItems ((S.reverse ++ [e]) ++ e2 :: P') := by simpa using hs
      simp only [Bool.not_true, Bool.false_eq_true, if_false, hene, (sorted_cut hs).2]
      rw [show S.reverse ++ e :: e2 :: P' = (S.reverse ++ [e]) ++ e2 :: P' by simp, (sorted_cut hs2).1]
      simp

/-- one forward page starting at `start` (`[]` = from the beginning) -/
def pageFwd (items : List (Bytes × V)) (start : Bytes) (limit : Nat) : Outcome (List (Bytes × V) × PageResponse) :=
  paginate items { key := start, limit := limit }

/-- A client that sends `next_key` back until it is empty; `fuel` bounds the number of requests, `none` is a failed
request or no fuel left. -/
def walkFwd (items : List (Bytes × V)) (limit : Nat) : Nat → Bytes → Option (List (Bytes × V))
  | 0, _ => none
  | fuel+1, start =>
    match pageFwd items start limit with
    | .ok (res, page) =>
      if page.nextKey = [] then some res
      else (walkFwd items limit fuel page.nextKey).map (res ++ ·)
    | _ => none

/-- `walkFwd` with `reverse = true`. -/
def walkRev (items : List (Bytes × V)) (limit : Nat) : Nat → Bytes → Option (List (Bytes × V))
  | 0, _ => none
  | fuel+1, start =>
    match paginate items { key := start, limit := limit, reverse := true } with
    | .ok (res, page) =>
      if page.nextKey = [] then some res
      else (walkRev items limit fuel page.nextKey).map (res ++ ·)
    | _ => none

/-- `Sends P S k`: `k` is what a walk sends to be given the part `S` of the listing that follows `P` — no key for the
first page, later the key of the first entry of `S`. -/
inductive Sends : List (Bytes × V) → List (Bytes × V) → Bytes → Prop
  | first {S} : Sends [] S []
  | next {P e T} (hP : P ≠ []) : Sends P (e :: T) e.1

/-- Page 0 is an offset request, later pages are key requests. -/
theorem walk_page_eq (items : List (Bytes × V)) (hs : SortedItems items) (hne : ∀ e ∈ items, e.1 ≠ []) (rev : Bool)
    (limit : Nat) (hl : 0 < limit) (hlim1 : limit + 1 < 18446744073709551616) {P S : List (Bytes × V)} {k : Bytes}
    (hL : ordered items rev = P ++ S) (hk : Sends P S k) :
    paginate items { key := k, limit := limit, reverse := rev } =
      .ok (S.take limit, { nextKey := keyAt S limit, total := 0 }) := by
  cases hk with
  | first =>
    have := offset_page_eq items 0 limit false rev hl (by omega)
    simpa only [hL, List.nil_append, List.drop_zero, Nat.zero_add, Bool.false_eq_true, if_false] using this
  | @next _ e _ hP =>
    have hene : e.1 ≠ [] := hne e (mem_ordered.mp (hL ▸ List.mem_append_right _ List.mem_cons_self))
    rw [paginate_of_key items (req := { key := e.1, limit := limit, reverse := rev }) hene]
    simp only [Nat.lt_irrefl, gt_iff_lt, if_false, Nat.ne_of_gt hl, pageByKey_eq, iterFrom_key hs rev hL hP hene,
      Outcome.ok_bind]

/-- `hw` is the recursion equation that `walkFwd` and `walkRev` both satisfy by `rfl`.  From any point of the listing
(`P` has been returned, `S` is still to come) a walk with enough fuel returns the rest. -/
theorem walk_from {w : Nat → Bytes → Option (List (Bytes × V))} (items : List (Bytes × V)) (rev : Bool) (limit : Nat)
    (hw : ∀ fuel start, w (fuel + 1) start =
      match paginate items { key := start, limit := limit, reverse := rev } with
      | .ok (res, pg) => if pg.nextKey = [] then some res else (w fuel pg.nextKey).map (res ++ ·)
      | _ => none)
    (hs : SortedItems items) (hne : ∀ e ∈ items, e.1 ≠ []) (hl : 0 < limit)
    (hlim1 : limit + 1 < 18446744073709551616) :
    ∀ fuel P S k, ordered items rev = P ++ S → Sends P S k → S.length < fuel * limit → w fuel k = some S := by
  intro fuel
  induction fuel with
  | zero => intro _ _ _ _ _ hf; omega
  | succ fuel ih =>
    intro P S k hL hk hf
    rw [hw, walk_page_eq items hs hne rev limit hl hlim1 hL hk]
    dsimp only
    cases hn : S[limit]? with
    | none => rw [if_pos (by simp only [keyAt, hn]), List.take_of_length_le (List.getElem?_eq_none_iff.mp hn)]
    | some e' =>
      obtain ⟨hlt, rfl⟩ := List.getElem?_eq_some_iff.mp hn
      -- the next request is for `S.drop limit`, which follows `P ++ S.take limit`
      have hS : S.take limit ++ S[limit] :: S.drop (limit + 1) = S := by
        rw [← List.drop_eq_getElem_cons hlt, List.take_append_drop]
      have hL' : ordered items rev = (P ++ S.take limit) ++ S[limit] :: S.drop (limit + 1) := by
        rw [List.append_assoc, hS, hL]
      have hP' : P ++ S.take limit ≠ [] := fun h => by
        have := congrArg List.length h
        simp only [List.length_append, List.length_take, List.length_nil] at this
        omega
      rw [show keyAt S limit = S[limit].1 by simp only [keyAt, hn],
        if_neg (hne _ (mem_ordered.mp (hL' ▸ List.mem_append_right _ List.mem_cons_self))),
        ih _ _ _ hL' (.next hP') (by
          rw [Nat.succ_mul] at hf
          simp only [List.length_cons, List.length_drop]
          omega), Option.map_some, hS]
theorem walk_complete {w : Nat → Bytes → Option (List (Bytes × V))} (items : List (Bytes × V)) (rev : Bool)
    (limit : Nat)
    (hw : ∀ fuel start, w (fuel + 1) start =
      match paginate items { key := start, limit := limit, reverse := rev } with
      | .ok (res, pg) => if pg.nextKey = [] then some res else (w fuel pg.nextKey).map (res ++ ·)
      | _ => none)
    (hs : SortedItems items) (hne : ∀ e ∈ items, e.1 ≠ []) (hl : 0 < limit)
    (hlim1 : limit + 1 < 18446744073709551616) :
    w (items.length + 1) [] = some (ordered items rev) :=
  walk_from items rev limit hw hs hne hl hlim1 _ [] _ [] rfl .first (by
    rw [length_ordered]
    exact Nat.lt_of_lt_of_le (Nat.lt_succ_self _) (Nat.le_mul_of_pos_right _ hl))

example : walkRev [([1], 10), ([2], 20), ([3], 30)] 2 4 [] = some [([3], 30), ([2], 20), ([1], 10)] := by decide

example : walkFwd [([1], 10), ([2], 20), ([3], 30)] 2 4 [] = some [([1], 10), ([2], 20), ([3], 30)] := by decide

end Panacea.Paginate
