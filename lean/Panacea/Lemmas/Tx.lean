import Panacea.Model.Tx
import Panacea.Lemmas.KV
import Panacea.Lemmas.Outcome
/-!
# The transaction pipeline, layer by layer

One inversion per layer: what an accepted step says about its parts.  The custom modules' handlers leave the `bank`
part of the state alone.
-/
namespace Panacea.Tx
open Panacea CompKey Validate
open Panacea.Outcome (ite_err_eq_ok)

/-- The state without the custom modules' part: what belongs to x/auth, x/bank and x/authz. -/
def bank (s : State) : State := { s with aol := {}, did := [], pnft := {} }

theorem runInner_bank {e : Env} {s s' : State} {m : Inner} (h : runInner e s m = .ok s') : bank s' = bank s := by
  cases m
  all_goals
    simp only [runInner] at h
    split at h <;> cases h
    rfl

theorem dispatch_cons_ok {e : Env} {g : Bytes} {m : Inner} {rest : List Inner} {s s' : State}
    (h : dispatch e g s (m :: rest) = .ok s') : ∃ granter s1, innerSigners e m = .ok [granter] ∧
      (granter = g ∨ hasGrant s granter g m.typeTag = true) ∧ runInner e s m = .ok s1 ∧ dispatch e g s1 rest = .ok s' := by
  rw [dispatch] at h
  split at h
  · rename_i granter hs
    obtain ⟨hauth, h⟩ := ite_err_eq_ok.1 h
    split at h
    · rename_i s1 hr
      exact ⟨granter, s1, hs, Decidable.or_iff_not_imp_left.2 (by simpa using hauth), hr, h⟩
    all_goals cases h
  all_goals cases h

theorem runMsgs_cons_ok {e : Env} {m : AnyMsg} {rest : List AnyMsg} {s s' : State}
    (h : runMsgs e s (m :: rest) = .ok s') : ∃ s1, runMsg e s m = .ok s1 ∧ runMsgs e s1 rest = .ok s' := by
  rw [runMsgs] at h
  split at h
  · exact ⟨_, ‹_›, h⟩
  all_goals cases h

/-- authorised by the grants `DispatchActions` started with: the handlers that ran in between do not touch them -/
theorem dispatch_ok {e : Env} {g : Bytes} : ∀ {msgs : List Inner} {s s' : State}, dispatch e g s msgs = .ok s' →
    bank s' = bank s ∧ ∀ m ∈ msgs, ∃ granter, innerSigners e m = .ok [granter] ∧
      (granter = g ∨ hasGrant s granter g m.typeTag = true)
  | [], _, _, h => by cases h; exact ⟨rfl, fun _ hm => nomatch hm⟩
  | _ :: _, s, _, h => by
    obtain ⟨granter, s1, hs, hauth, hr, hd⟩ := dispatch_cons_ok h
    obtain ⟨hb, hall⟩ := dispatch_ok hd
    have hb1 := runInner_bank hr
    -- `hasGrant` reads the grants only
    have hg : hasGrant s1 = hasGrant s := show hasGrant (bank s1) = hasGrant (bank s) from congrArg hasGrant hb1
    exact ⟨hb.trans hb1, List.forall_mem_cons.2 ⟨⟨granter, hs, hauth⟩, hg ▸ hall⟩⟩

theorem runMsg_bank {e : Env} {s s' : State} {m : AnyMsg} (h : runMsg e s m = .ok s') : bank s' = bank s := by
  cases m with
  | plain m => exact runInner_bank h
  | exec g msgs =>
    rw [runMsg] at h
    split at h
    · exact (dispatch_ok h).1
    · cases h

theorem runMsgs_bank {e : Env} : ∀ {msgs : List AnyMsg} {s s' : State}, runMsgs e s msgs = .ok s' → bank s' = bank s
  | [], _, _, h => by cases h; rfl
  | _ :: _, _, _, h => by
    obtain ⟨_, hr, hd⟩ := runMsgs_cons_ok h
    exact (runMsgs_bank hd).trans (runMsg_bank hr)

theorem txSigners_go_cons_ok {e : Env} {m : AnyMsg} {rest : List AnyMsg} {all : List Bytes}
    (h : txSigners.go e (m :: rest) = .ok all) :
    ∃ a b, msgSigners e m = .ok a ∧ txSigners.go e rest = .ok b ∧ all = a ++ b := by
  rw [txSigners.go] at h
  split at h <;> cases h
  exact ⟨_, _, ‹_›, ‹_›, rfl⟩

theorem mem_dedup (l : List Bytes) (a : Bytes) : a ∈ dedup l ↔ a ∈ l := by
  induction l with
  | nil => exact Iff.rfl
  | cons x xs ih => by_cases he : a = x <;> simp [dedup, he, ih]

theorem mem_txSigners_go {e : Env} {m : AnyMsg} {l : List Bytes} (hl : msgSigners e m = .ok l) :
    ∀ {msgs : List AnyMsg} {all : List Bytes}, txSigners.go e msgs = .ok all → m ∈ msgs → ∀ a ∈ l, a ∈ all
  | x :: xs, _, hgo, hm, a, ha => by
    obtain ⟨lx, lr, hx, hr, rfl⟩ := txSigners_go_cons_ok hgo
    rcases List.mem_cons.mp hm with rfl | hm
    · rw [hl] at hx
      cases hx
      exact List.mem_append_left _ ha
    · exact List.mem_append_right _ (mem_txSigners_go hl hr hm a ha)

theorem txSigners_ok {e : Env} {tx : Tx} {signers : List Bytes} (h : txSigners e tx = .ok signers) :
    ∃ all, txSigners.go e tx.msgs = .ok all ∧ ∀ a ∈ all, a ∈ signers := by
  unfold txSigners at h
  split at h
  · rename_i all hgo
    refine ⟨all, hgo, fun a ha => ?_⟩
    have hin := (mem_dedup all a).mpr ha
    split at h <;> cases h
    · split
      · exact hin
      · exact List.mem_append_left _ hin
    · exact hin
  all_goals cases h

/-- What a passed ante handler checked and did: the fee payer could pay, every signer slot holds that signer's own
valid signature at the account's sequence, and the state returned has the fee moved and the sequences bumped. -/
inductive AnteOk (s : State) (tx : Tx) (signers : List Bytes) : State → Prop
  | mk {payer : Bytes} {pacc : Account} (payerIs : feePayer tx signers = some payer)
      (payerAcc : s.accounts.get payer = some pacc) (affordable : tx.fee ≤ pacc.balance)
      (slots : tx.sigs.length = signers.length)
      (signed : ∀ p ∈ signers.zip tx.sigs, p.2.signer = p.1 ∧ p.2.valid = true ∧
        ∃ acc, (s.accounts.set payer { pacc with balance := pacc.balance - tx.fee }).get p.1 = some acc ∧
          p.2.sequence = acc.sequence) :
      AnteOk s tx signers
        { s with accounts := bumpSeqs (s.accounts.set payer { pacc with balance := pacc.balance - tx.fee }) signers,
                 feeCollector := s.feeCollector + tx.fee }

theorem ante_ok {s s1 : State} {tx : Tx} {signers : List Bytes} (h : ante s tx signers = .ok s1) :
    AnteOk s tx signers s1 := by
  unfold ante at h
  split at h
  · cases h
  · rename_i payer hp
    split at h
    · cases h
    · rename_i pacc hg
      simp only [ite_err_eq_ok, Outcome.ok.injEq] at h
      obtain ⟨hbal, hlen, hsig, rfl⟩ := h
      refine .mk hp hg (by omega) (by simpa using hlen) fun p hp => ?_
      simp only [Bool.not_eq_true', Bool.not_eq_false, List.all_eq_true] at hsig
      have := hsig p hp
      split at this
      · cases this
      · rename_i acc hacc
        simp only [Bool.and_eq_true, decide_eq_true_eq] at this
        exact ⟨this.1.1, this.1.2, acc, hacc, this.2⟩

/-- The four ways `deliverTx` ends: rejected twice with `s` itself, `failedMsgs` with the state the ante handler
left, `ok` with the state after the messages. -/
inductive Delivered (e : Env) (s : State) (tx : Tx) : State → Result → Prop
  | rejectedStateless : Delivered e s tx s .rejectedStateless
  | rejectedAnte : Delivered e s tx s .rejectedAnte
  | failedMsgs {signers s1} : txSigners e tx = .ok signers → ante s tx signers = .ok s1 → Delivered e s tx s1 .failedMsgs
  | ok {signers s1 s'} : txSigners e tx = .ok signers → ante s tx signers = .ok s1 → runMsgs e s1 tx.msgs = .ok s' →
      Delivered e s tx s' .ok

theorem deliverTx_cases {e : Env} {s s' : State} {tx : Tx} {r : Result} (h : deliverTx e s tx = (s', r)) :
    Delivered e s tx s' r := by
  -- five nested tests, six ways out: four return `s` with a rejection, the last two are past the ante handler
  unfold deliverTx at h
  repeat' split at h
  all_goals cases h
  all_goals first | exact .rejectedStateless | exact .rejectedAnte | skip
  · exact .ok ‹_› ‹_› ‹_›
  · exact .failedMsgs ‹_› ‹_›

theorem deliverTx_past_ante {e : Env} {s s' : State} {tx : Tx} {r : Result} (h : deliverTx e s tx = (s', r))
    (hr : r = .ok ∨ r = .failedMsgs) :
    ∃ signers s1, txSigners e tx = .ok signers ∧ ante s tx signers = .ok s1 ∧ bank s' = bank s1 := by
  rcases hr with rfl | rfl
  · cases deliverTx_cases h with
    | ok hsig hante hrun => exact ⟨_, _, hsig, hante, runMsgs_bank hrun⟩
  · cases deliverTx_cases h with
    | failedMsgs hsig hante => exact ⟨_, _, hsig, hante, rfl⟩

theorem bumpSeqs_balance (signers : List Bytes) : ∀ (m : Map Account) (a : Bytes),
    (((bumpSeqs m signers).get a).getD {}).balance = ((m.get a).getD {}).balance := by
  induction signers with
  | nil => intro m a; rfl
  | cons x rest ih =>
    intro m a
    simp only [bumpSeqs]
    rw [ih]
    by_cases hx : a = x
    · subst hx
      rw [Map.get_set_eq]
      rfl
    · rw [Map.get_set_ne hx]

end Panacea.Tx
