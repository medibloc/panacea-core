import Panacea.Model.Bank
/-!
# The bank folds in closed form

Debit, credit and burn are folds over a coin list that touch one account, a denomination at a time; each is given in
closed form, through the total `amt` a coin list holds of a denomination.
-/
namespace Panacea.Bank
open Panacea

/-- `spendableCoins` over a list of denominations, for the inductions -/
def coinsOf (s : State) (a : Bytes) (ds : List Bytes) : List (Bytes × Nat) :=
  (ds.map fun d => (d, spendable s a d)).filter (·.2 ≠ 0)

theorem spendableCoins_eq (s : State) (a : Bytes) : spendableCoins s a = coinsOf s a s.denoms := rfl

def amt : List (Bytes × Nat) → Bytes → Nat
  | [], _ => 0
  | (d', n) :: rest, d => (if d = d' then n else 0) + amt rest d

/-- The step shared by the three folds, `g` being `+` for a credit and `-` for a debit. -/
theorem bal_step {g : Nat → Nat → Nat} (hg : ∀ x n m, g (g x n) m = g x (n + m)) (s : State) (a d : Bytes) (n : Nat)
    (rest : List (Bytes × Nat)) :
    (fun a' d' => g ((setBal s a d (g (s.bal a d) n)).bal a' d') (if a' = a then amt rest d' else 0)) =
      fun a' d' => g (s.bal a' d') (if a' = a then amt ((d, n) :: rest) d' else 0) := by
  funext a' d'
  simp only [setBal, amt]
  by_cases ha : a' = a
  · subst ha
    by_cases hd : d' = d
    · subst hd
      simp only [and_self, if_true, hg]
    · simp only [hd, and_false, if_false, if_true, Nat.zero_add]
  · simp only [ha, false_and, if_false]

theorem addCoins_eq (a : Bytes) : ∀ (coins : List (Bytes × Nat)) (s : State),
    addCoins s a coins = { s with bal := fun a' d => s.bal a' d + if a' = a then amt coins d else 0 }
  | [], s => by simp [addCoins, amt]
  | (d, n) :: rest, s => by
    rw [addCoins, addCoins_eq a rest]
    exact congrArg (fun b => { s with bal := b }) (bal_step Nat.add_assoc s a d n rest)

theorem burnCoins_eq (m : Bytes) : ∀ (coins : List (Bytes × Nat)) (s : State),
    burnCoins s m coins = { s with bal := fun a' d => s.bal a' d - if a' = m then amt coins d else 0,
                                   supply := fun d => s.supply d - amt coins d }
  | [], s => by simp [burnCoins, amt]
  | (d, n) :: rest, s => by
    rw [burnCoins, burnCoins_eq m rest]
    simp only [State.mk.injEq]
    refine ⟨bal_step Nat.sub_sub s m d n rest, rfl, funext fun d' => ?_, rfl⟩
    simp only [setBal, amt]
    by_cases hd : d' = d
    · subst hd
      simp only [if_true, Nat.sub_sub]
    · simp only [hd, if_false, Nat.zero_add]

theorem subUnlocked_eq (a : Bytes) : ∀ (coins : List (Bytes × Nat)) (s s' : State), subUnlocked s a coins = (s', true) →
    s' = { s with bal := fun a' d => s.bal a' d - if a' = a then amt coins d else 0 }
  | [], s, s', h => by
    cases h
    simp [amt]
  | (d, n) :: rest, s, s', h => by
    rw [subUnlocked] at h
    split at h
    · cases h
    · split at h
      · cases h
      · rw [subUnlocked_eq a rest _ s' h]
        exact congrArg (fun b => { s with bal := b }) (bal_step Nat.sub_sub s a d n rest)

theorem subUnlocked_ok (a : Bytes) : ∀ (coins : List (Bytes × Nat)) (s : State),
    (∀ c ∈ coins, s.locked a c.1 ≤ s.bal a c.1) → (∀ d, amt coins d ≤ spendable s a d) →
    ∃ s', subUnlocked s a coins = (s', true)
  | [], s, _, _ => ⟨s, rfl⟩
  | (d, n) :: rest, s, hl, h => by
    have h1 : s.locked a d ≤ s.bal a d := hl (d, n) List.mem_cons_self
    have h2 : n + amt rest d ≤ spendable s a d := by simpa only [amt, if_true] using h d
    rw [subUnlocked, if_neg (Nat.not_lt.2 h1), if_neg (Nat.not_lt.2 (Nat.le_trans (Nat.le_add_right ..) h2))]
    -- after the debit there is `n` less to spend under `d` and `n` less asked for: the lock and the rest still fit
    unfold spendable at h2
    refine subUnlocked_ok a rest _ (fun c hc => ?_) fun d' => ?_
    · by_cases he : c.1 = d
      · simp only [setBal, he, and_self, if_true]
        omega
      · simpa only [setBal, he, and_false, if_false] using hl c (List.mem_cons_of_mem _ hc)
    · by_cases he : d' = d
      · simp only [spendable, setBal, he, and_self, if_true]
        omega
      · simpa only [amt, spendable, setBal, he, and_false, if_false, Nat.zero_add] using h d'

theorem amt_coinsOf (s : State) (a d : Bytes) : ∀ {ds : List Bytes}, ds.Nodup →
    amt (coinsOf s a ds) d = if d ∈ ds then spendable s a d else 0
  | [], _ => rfl
  | d' :: ds, hnd => by
    obtain ⟨hd, hnd⟩ := List.nodup_cons.mp hnd
    -- a denomination is listed only if something of it is spendable
    have hc : amt (coinsOf s a (d' :: ds)) d =
        (if d = d' then spendable s a d' else 0) + amt (coinsOf s a ds) d := by
      simp only [coinsOf, List.map_cons, List.filter_cons]
      split
      · rfl
      · rename_i hz
        have : spendable s a d' = 0 := by simpa using hz
        rw [this, ite_self, Nat.zero_add]
    rw [hc, amt_coinsOf s a d hnd]
    by_cases he : d = d'
    · subst he
      simp only [if_true, List.mem_cons, true_or, hd, if_false, Nat.add_zero]
    · simp only [he, if_false, List.mem_cons, false_or, Nat.zero_add]

structure Debited (s s' : State) (a : Bytes) (ds : List Bytes) : Prop where
  onDs : ∀ d ∈ ds, s'.bal a d = s.bal a d - spendable s a d
  frame : ∀ a' d', (a' ≠ a ∨ d' ∉ ds) → s'.bal a' d' = s.bal a' d'
  locked : s'.locked = s.locked
  supply : s'.supply = s.supply
  denoms : s'.denoms = s.denoms

theorem subUnlocked_spendable (a : Bytes) (ds : List Bytes) (s : State) (hnd : ds.Nodup)
    (hle : ∀ d ∈ ds, s.locked a d ≤ s.bal a d) : ∃ s', subUnlocked s a (coinsOf s a ds) = (s', true) := by
  refine subUnlocked_ok a _ s (fun c hc => ?_) fun d => ?_
  · obtain ⟨d, hd, rfl⟩ := List.mem_map.mp (List.mem_filter.mp hc).1
    exact hle d hd
  · rw [amt_coinsOf s a d hnd]
    split
    · exact Nat.le_refl _
    · exact Nat.zero_le _

end Panacea.Bank
