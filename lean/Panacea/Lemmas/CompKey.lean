import Panacea.Model.CompKey
import Panacea.Lemmas.Bytes
/-! The byte form of composite keys: `encode` is the concatenation of the length-prefixed components, defined iff all are
≤ 255 bytes, and `decode` its inverse; byte prefixes of encodings are component prefixes of tuples; a typed decode is an
encoding plus a shape. -/
namespace Panacea.CompKey

theorem encode_cons (v : Bytes) (vs : List Bytes) :
    encode (v :: vs) =
      if v.length > 255 then none else (encode vs).map fun r => UInt8.ofNat v.length :: (v ++ r) := by
  rw [encode]
  cases encode vs <;> rfl

theorem decodeAux_cons (fuel : Nat) (n : UInt8) (rest : Bytes) :
    decodeAux (fuel + 1) (n :: rest) =
      if n.toNat > rest.length then none
      else (decodeAux fuel (rest.drop n.toNat)).map fun vs => rest.take n.toNat :: vs := by
  rw [decodeAux]
  cases decodeAux fuel (rest.drop n.toNat) <;> rfl

theorem encode_cons_some {v : Bytes} {vs : List Bytes} {bz : Bytes} (h : encode (v :: vs) = some bz) :
    ¬ v.length > 255 ∧ ∃ r, encode vs = some r ∧ bz = UInt8.ofNat v.length :: (v ++ r) := by
  rw [encode_cons] at h
  split at h
  · cases h
  · obtain ⟨r, hr, rfl⟩ := Option.map_eq_some_iff.mp h
    exact ⟨‹_›, r, hr, rfl⟩

theorem encode_eq_some {vs : List Bytes} {bz : Bytes} :
    encode vs = some bz ↔ (∀ v ∈ vs, v.length ≤ 255) ∧ bz = vs.flatMap fun v => UInt8.ofNat v.length :: v := by
  induction vs generalizing bz with
  | nil => simp [encode, eq_comm]
  | cons v vs ih =>
    rw [encode_cons]
    split
    · constructor
      · intro h
        cases h
      · intro ⟨h, _⟩
        have := h v List.mem_cons_self
        omega
    · simp only [Option.map_eq_some_iff, ih, List.forall_mem_cons, List.flatMap_cons, List.cons_append]
      constructor
      · rintro ⟨_, ⟨h, rfl⟩, rfl⟩
        exact ⟨⟨by omega, h⟩, rfl⟩
      · rintro ⟨⟨_, h⟩, rfl⟩
        exact ⟨_, ⟨h, rfl⟩, rfl⟩

theorem encode_isSome_iff (vs : List Bytes) : (encode vs).isSome = true ↔ ∀ v ∈ vs, v.length ≤ 255 := by
  simp [Option.isSome_iff_exists, encode_eq_some]

theorem encode_append {a b : List Bytes} {ea eb : Bytes} (ha : encode a = some ea) (hb : encode b = some eb) :
    encode (a ++ b) = some (ea ++ eb) := by
  rw [encode_eq_some] at ha hb ⊢
  obtain ⟨ha, rfl⟩ := ha
  obtain ⟨hb, rfl⟩ := hb
  exact ⟨fun v hv => (List.mem_append.mp hv).elim (ha v) (hb v), List.flatMap_append.symm⟩

theorem encode_append_some {a b : List Bytes} {e : Bytes} (h : encode (a ++ b) = some e) :
    ∃ ea eb, encode a = some ea ∧ encode b = some eb ∧ e = ea ++ eb := by
  obtain ⟨hall, rfl⟩ := encode_eq_some.mp h
  exact ⟨_, _, encode_eq_some.mpr ⟨fun v hv => hall v (List.mem_append_left _ hv), rfl⟩,
    encode_eq_some.mpr ⟨fun v hv => hall v (List.mem_append_right _ hv), rfl⟩, List.flatMap_append⟩

theorem encode_take {vs : List Bytes} {e : Bytes} (h : encode vs = some e) (k : Nat) :
    ∃ p, encode (vs.take k) = some p ∧ p <+: e := by
  rw [← List.take_append_drop k vs] at h
  obtain ⟨ea, eb, h1, _, rfl⟩ := encode_append_some h
  exact ⟨ea, h1, List.prefix_append _ _⟩

theorem encode_prefix_of_prefix {xs ys : List Bytes} {p q : Bytes}
    (hp : encode xs = some p) (hq : encode ys = some q) (h : xs <+: ys) : p <+: q := by
  obtain ⟨t, rfl⟩ := h
  obtain ⟨ea, eb, h1, _, rfl⟩ := encode_append_some hq
  rw [hp] at h1
  cases h1
  exact List.prefix_append _ _

theorem decodeAux_encode (vs : List Bytes) (bz : Bytes) (h : encode vs = some bz) :
    ∀ fuel, fuel > bz.length → decodeAux fuel bz = some vs := by
  induction vs generalizing bz with
  | nil =>
    intro fuel _
    cases (encode_eq_some.mp h).2
    cases fuel <;> rfl
  | cons v vs ih =>
    intro fuel hf
    obtain ⟨hlen, r, hr, rfl⟩ := encode_cons_some h
    cases fuel with
    | zero => exact absurd hf (Nat.not_lt_zero _)
    | succ fuel =>
      rw [decodeAux_cons, UInt8.toNat_ofNat_of_lt' (show v.length < 256 by omega), if_neg (by simp),
        List.drop_left, List.take_left, ih r hr fuel (by simp at hf; omega)]
      rfl

theorem decode_encode' (vs : List Bytes) (bz : Bytes) (h : encode vs = some bz) : decode bz = some vs :=
  decodeAux_encode vs bz h _ (by omega)

theorem encode_decodeAux : ∀ (fuel : Nat) (bz : Bytes) (vs : List Bytes),
    decodeAux fuel bz = some vs → encode vs = some bz
  | _, [], vs, h => by
    rw [decodeAux] at h
    cases h
    rfl
  | 0, _ :: _, vs, h => by cases h
  | fuel + 1, n :: rest, vs, h => by
    rw [decodeAux_cons] at h
    split at h
    · cases h
    · obtain ⟨ws, hd, rfl⟩ := Option.map_eq_some_iff.mp h
      have hl : (rest.take n.toNat).length = n.toNat := List.length_take_of_le (by omega)
      rw [encode_cons, hl, if_neg (by have := n.toNat_lt; omega), encode_decodeAux fuel _ _ hd, UInt8.ofNat_toNat,
        Option.map_some, List.take_append_drop]

theorem encode_decode' (bz : Bytes) (vs : List Bytes) (h : decode bz = some vs) : encode vs = some bz :=
  encode_decodeAux _ bz vs h

theorem prefix_of_encode_prefix {xs ys : List Bytes} {p q : Bytes} (hp : encode xs = some p) (hq : encode ys = some q)
    (hpre : p <+: q) : xs <+: ys := by
  induction xs generalizing ys p q with
  | nil => exact List.nil_prefix
  | cons x xs ih =>
    obtain ⟨hlx, r1, hr1, rfl⟩ := encode_cons_some hp
    cases ys with
    | nil =>
      cases (encode_eq_some.mp hq).2
      simp at hpre
    | cons y ys =>
      obtain ⟨hly, r2, hr2, rfl⟩ := encode_cons_some hq
      obtain ⟨hb, t, ht⟩ := List.cons_prefix_cons.mp hpre
      have hl : x.length = y.length := uint8_ofNat_inj (by omega) (by omega) hb
      -- equal length bytes: `x` and `y` are the same stretch of the longer encoding
      obtain ⟨rfl, hrr⟩ := List.append_inj (by simpa using ht : x ++ (r1 ++ t) = y ++ r2) hl
      exact List.cons_prefix_cons.mpr ⟨rfl, ih hr1 hr2 ⟨t, hrr⟩⟩

theorem encode_be64_none {o t : Bytes} (m : Nat) : encode [o, t, be64 m] = none ↔ encode [o, t] = none := by
  simp [← Option.not_isSome_iff_eq_none, encode_isSome_iff, be64_length]

theorem addrOk_iff {a : Bytes} : addrOk a = true ↔ 0 < a.length ∧ a.length ≤ 255 := by
  simp [addrOk]

theorem encode_inj {a b : List Bytes} {bz : Bytes} (ha : encode a = some bz) (hb : encode b = some bz) : a = b :=
  Option.some.inj ((decode_encode' a bz ha).symm.trans (decode_encode' b bz hb))

theorem encode2_inj {o t o' t' : Bytes} {k : Bytes} (h : encode [o, t] = some k) (h' : encode [o', t'] = some k) :
    o = o' ∧ t = t' := by
  simpa using encode_inj h h'

theorem encode3_inj {o t x o' t' x' : Bytes} {k : Bytes} (h : encode [o, t, x] = some k)
    (h' : encode [o', t', x'] = some k) : o = o' ∧ t = t' ∧ x = x' := by
  simpa using encode_inj h h'

theorem recordKey_inj {o t o' t' : Bytes} {n n' : Nat} {k : Bytes} (hn : n < 18446744073709551616)
    (hn' : n' < 18446744073709551616) (h : encode [o, t, be64 n] = some k) (h' : encode [o', t', be64 n'] = some k) :
    o = o' ∧ t = t' ∧ n = n' := by
  obtain ⟨a, b, c⟩ := encode3_inj h h'
  exact ⟨a, b, be64_injective n n' hn hn' c⟩

/-- The `n`-component key that is a byte-prefix of an `n+1`-component key is the key of its first `n` components
(owner / topic key, topic / writer key). -/
theorem isPrefixOf_key_iff {xs ys : List Bytes} {z p q k : Bytes} (hp : encode xs = some p) (hq : encode ys = some q)
    (hk : encode (ys ++ [z]) = some k) (hl : xs.length = ys.length) : p.isPrefixOf k = true ↔ p = q := by
  rw [List.isPrefixOf_iff_prefix]
  constructor
  · intro h
    have h := prefix_of_encode_prefix hp hk h
    have := (List.prefix_of_prefix_length_le h (List.prefix_append ys [z]) (Nat.le_of_eq hl)).eq_of_length hl
    rw [this, hq] at hp
    exact (Option.some.inj hp).symm
  · intro h
    rw [encode_inj hp (h ▸ hq)] at hp
    exact encode_prefix_of_prefix hp hk (List.prefix_append ys [z])

/-- Eight bytes always have a value: the `unreachable` branch of `offsetOfBytes` is never taken. -/
theorem offsetOfBytes_cases (b : Bytes) :
    (∃ n, offsetOfBytes b = .ok n ∧ be64 n = b) ∨ offsetOfBytes b = .err "offset-len" := by
  unfold offsetOfBytes
  split
  · exact .inr rfl
  · rename_i hl
    have hf := fromBe64_eq b
    rw [if_pos (Decidable.not_not.mp hl)] at hf
    rw [hf]
    exact .inl ⟨_, rfl, be64_fromBe64 hf⟩

theorem fromByteSlices_cases (k : Kind) (vs : List Bytes) :
    fromByteSlices k vs = .ok vs ∨ ∃ c, fromByteSlices k vs = .err c := by
  -- one case per clause of `fromByteSlices`, in its order
  unfold fromByteSlices
  split
  · split
    · exact .inl rfl
    · exact .inr ⟨_, rfl⟩
  · exact .inr ⟨_, rfl⟩
  · split
    · exact .inl rfl
    · exact .inr ⟨_, rfl⟩
  · exact .inr ⟨_, rfl⟩
  · split
    · exact .inr ⟨_, rfl⟩
    · split
      · exact .inr ⟨_, rfl⟩
      · exact .inl rfl
  · exact .inr ⟨_, rfl⟩
  · split
    · exact .inr ⟨_, rfl⟩
    · rename_i n _
      rcases offsetOfBytes_cases n with ⟨off, ho, hb⟩ | ho <;> rw [ho]
      · exact .inl (by simp only [hb])
      · exact .inr ⟨_, rfl⟩
  · exact .inr ⟨_, rfl⟩

theorem offsetOfBytes_be64 {off : Nat} (h : off < 18446744073709551616) : offsetOfBytes (be64 off) = .ok off := by
  unfold offsetOfBytes
  rw [if_neg (fun h => h (be64_length off)), fromBe64_be64 off h]

theorem owner_slices {vs comps : List Bytes} (h : fromByteSlices .owner vs = .ok comps) :
    ∃ o, vs = [o] ∧ comps = [o] ∧ addrOk o = true := by
  match vs, h with
  | [o], h =>
    simp only [fromByteSlices] at h
    split at h
    · cases h
      exact ⟨o, rfl, rfl, ‹_›⟩
    · cases h

theorem topic_slices {vs comps : List Bytes} (h : fromByteSlices .topic vs = .ok comps) :
    ∃ o t, vs = [o, t] ∧ comps = [o, t] ∧ addrOk o = true := by
  match vs, h with
  | [o, t], h =>
    simp only [fromByteSlices] at h
    split at h
    · cases h
      exact ⟨o, t, rfl, rfl, ‹_›⟩
    · cases h

theorem writer_slices {vs comps : List Bytes} (h : fromByteSlices .writer vs = .ok comps) :
    ∃ o t x, vs = [o, t, x] ∧ comps = [o, t, x] ∧ addrOk o = true ∧ addrOk x = true := by
  match vs, h with
  | [o, t, x], h =>
    simp only [fromByteSlices] at h
    cases ho : addrOk o <;> cases hx : addrOk x <;> simp only [ho, hx] at h <;> cases h
    exact ⟨o, t, x, rfl, rfl, ho, hx⟩

theorem record_slices {vs comps : List Bytes} (h : fromByteSlices .record vs = .ok comps) :
    ∃ o t n off, vs = [o, t, n] ∧ comps = [o, t, be64 off] ∧ addrOk o = true ∧ n.length = 8 ∧
      fromBe64 n = some off := by
  match vs, h with
  | [o, t, n], h =>
    simp only [fromByteSlices, offsetOfBytes] at h
    cases ho : addrOk o
    · simp only [ho] at h
      cases h
    by_cases hl : n.length = 8
    · cases hf : fromBe64 n <;> simp [ho, hl, hf] at h
      exact ⟨o, t, n, _, rfl, h.symm, ho, hl, hf⟩
    · simp [ho, hl] at h

theorem decodeTyped_split {kind : Kind} {bz : Bytes} {comps : List Bytes} (h : decodeTyped kind bz = .ok comps) :
    ∃ vs, decode bz = some vs ∧ fromByteSlices kind vs = .ok comps := by
  unfold decodeTyped at h
  cases hd : decode bz with
  | none =>
    rw [hd] at h
    cases h
  | some vs =>
    rw [hd] at h
    exact ⟨vs, rfl, h⟩

theorem decodeTyped_eq_ok {k : Kind} {bz : Bytes} {comps : List Bytes} :
    decodeTyped k bz = .ok comps ↔ encode comps = some bz ∧ fromByteSlices k comps = .ok comps := by
  constructor
  · intro h
    obtain ⟨vs, hd, hf⟩ := decodeTyped_split h
    rcases fromByteSlices_cases k vs with h' | ⟨c, h'⟩ <;> rw [h'] at hf <;> cases hf
    exact ⟨encode_decode' _ _ hd, h'⟩
  · intro ⟨he, hf⟩
    unfold decodeTyped
    rw [decode_encode' _ _ he]
    exact hf

theorem decodeTyped_topic_length {bz : Bytes} {comps : List Bytes} (h : decodeTyped .topic bz = .ok comps) :
    comps.length = 2 := by
  obtain ⟨vs, _, hf⟩ := decodeTyped_split h
  obtain ⟨o, t, _, rfl, _⟩ := topic_slices hf
  rfl

theorem decodeTyped_writer_length {bz : Bytes} {comps : List Bytes} (h : decodeTyped .writer bz = .ok comps) :
    comps.length = 3 := by
  obtain ⟨vs, _, hf⟩ := decodeTyped_split h
  obtain ⟨o, t, x, _, rfl, _⟩ := writer_slices hf
  rfl

end Panacea.CompKey
