import Panacea.Model.Did
import Panacea.Lemmas.Bytes
/-! Protobuf varints form a prefix code; the DID sign bytes are injective in (data, sequence). -/
namespace Panacea.Did
open Panacea

theorem div128_lt {n : Nat} (h : ¬ n < 128) : n / 128 < n :=
  Nat.div_lt_self (Nat.lt_of_lt_of_le (by decide) (Nat.le_of_not_lt h)) (by decide)

theorem varintAux_fuel (fuel fuel' n : Nat) (h : n < fuel) (h' : n < fuel') :
    varintAux fuel n = varintAux fuel' n := by
  induction fuel generalizing fuel' n with
  | zero => cases h
  | succ fuel ih =>
    cases fuel' with
    | zero => cases h'
    | succ fuel' =>
      simp only [varintAux]
      split
      · rfl
      · rename_i hn
        rw [ih fuel' (n / 128) (Nat.lt_of_lt_of_le (div128_lt hn) (Nat.le_of_lt_succ h))
          (Nat.lt_of_lt_of_le (div128_lt hn) (Nat.le_of_lt_succ h'))]

theorem varint_eq (n : Nat) :
    varint n = if n < 128 then [UInt8.ofNat n] else UInt8.ofNat (n % 128 + 128) :: varint (n / 128) := by
  unfold varint
  rw [varintAux]
  split
  · rfl
  · rw [varintAux_fuel n (n / 128 + 1) (n / 128) (div128_lt ‹_›) (Nat.lt_succ_self _)]

theorem varint_prefix_free (a b : Nat) (x y : Bytes) (h : varint a ++ x = varint b ++ y) : a = b ∧ x = y := by
  -- a last byte is below 128, a continuation byte is `n % 128 + 128`
  have last {n : Nat} (h : n < 128) : n < 256 := Nat.lt_trans h (by decide)
  have cont (n : Nat) : n % 128 + 128 < 256 := Nat.add_lt_add_right (Nat.mod_lt n (by decide)) 128
  have high (n : Nat) : ¬ n % 128 + 128 < 128 := Nat.not_lt.mpr (Nat.le_add_left 128 _)
  induction a using Nat.strongRecOn generalizing b with
  | ind a ih =>
    rw [varint_eq a, varint_eq b] at h
    split at h <;> split at h
    all_goals simp only [List.cons_append, List.nil_append, List.cons.injEq] at h
    · rename_i ha hb
      exact ⟨uint8_ofNat_inj (last ha) (last hb) h.1, h.2⟩
    · rename_i ha _
      exact (high b (uint8_ofNat_inj (last ha) (cont b) h.1 ▸ ha)).elim
    · rename_i _ hb
      exact (high a (uint8_ofNat_inj (cont a) (last hb) h.1 ▸ hb)).elim
    · have h1 := Nat.add_right_cancel (uint8_ofNat_inj (cont a) (cont b) h.1)
      obtain ⟨h2, h3⟩ := ih (a / 128) (div128_lt ‹_›) _ h.2
      rw [← Nat.div_add_mod a 128, ← Nat.div_add_mod b 128, h1, h2]
      exact ⟨rfl, h3⟩

theorem varint_injective (a b : Nat) (h : varint a = varint b) : a = b :=
  (varint_prefix_free a b [] [] (by simpa using h)).1

theorem seqField_injective {s s' : Nat}
    (h : (if s = 0 then [] else 0x10 :: varint s) = (if s' = 0 then ([] : Bytes) else 0x10 :: varint s')) : s = s' := by
  split at h <;> split at h
  · omega
  · cases h
  · cases h
  · exact varint_injective _ _ (List.cons.inj h).2

/-- The bytes a DID key holder signs determine both the signed content and the sequence number. -/
theorem signBytes_injective (d d' : Bytes) (s s' : Nat) (h : signBytes d s = signBytes d' s') : d = d' ∧ s = s' := by
  unfold signBytes at h
  -- a present data field starts with the tag 0x0a, which the sequence field (tag 0x10) does not
  have mixed : ∀ {d : Bytes} {s s' : Nat}, [] ++ (if s = 0 then [] else 0x10 :: varint s) ≠
      (0x0a :: varint d.length ++ d) ++ (if s' = 0 then ([] : Bytes) else 0x10 :: varint s') := by
    intro d s s' h
    split at h <;> cases h
  by_cases hd : d = [] <;> by_cases hd' : d' = [] <;> simp only [hd, hd', if_true, if_false] at h
  · exact ⟨hd.trans hd'.symm, seqField_injective h⟩
  · exact absurd h mixed
  · exact absurd h.symm mixed
  · simp only [List.cons_append, List.cons.injEq, true_and, List.append_assoc] at h
    obtain ⟨hl, hrest⟩ := varint_prefix_free _ _ _ _ h
    obtain ⟨h1, h2⟩ := List.append_inj hrest hl
    exact ⟨h1, seqField_injective h2⟩

theorem marshalIdOnly_injective {a b : Bytes} (h : marshalIdOnly a = marshalIdOnly b) : a = b := by
  unfold marshalIdOnly at h
  split at h <;> split at h
  · exact ‹a = []›.trans ‹b = []›.symm
  · cases h
  · cases h
  · exact (varint_prefix_free _ _ _ _ (List.cons.inj h).2).2

end Panacea.Did
