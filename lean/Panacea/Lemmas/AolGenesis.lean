import Panacea.Lemmas.AolRec
/-! What the repaired AOL genesis validation (F26) guarantees of the imported state, as far as records go: every record
entry lies under a topic of the file, below its `total_records`, and every topic has as many record entries as its
counter says.  `GenesisChecked` is an assumption (the validator is not modelled); the pigeonhole principle
(`nodup_full`) turns the count into "every offset below the counter". -/
namespace Panacea.Aol
open Panacea CompKey

/-- pigeonhole: a duplicate-free list inside `t` that is no shorter than `t` covers `t` -/
theorem subset_of_nodup_of_length_le {α} {l t : List α} (hd : l.Nodup) (hs : l ⊆ t) (hl : t.length ≤ l.length) :
    t ⊆ l := by
  intro k hk
  apply Classical.byContradiction
  intro hnot
  -- otherwise `k :: l` would be `l.length + 1` distinct elements of `t`
  have := List.Nodup.length_le_of_subset (List.nodup_cons.mpr ⟨hnot, hd⟩) (List.cons_subset.mpr ⟨hk, hs⟩)
  rw [List.length_cons] at this
  exact Nat.not_succ_le_self _ (Nat.le_trans this hl)

theorem nodup_full (n : Nat) (l : List Nat) (hd : l.Nodup) (hb : ∀ x ∈ l, x < n) (hl : l.length = n) :
    ∀ k, k < n → k ∈ l := fun k hk =>
  subset_of_nodup_of_length_le (t := List.range n) hd (fun x hx => List.mem_range.mpr (hb x hx))
    (by rw [List.length_range, hl]; exact Nat.le_refl n) (List.mem_range.mpr hk)

structure GenesisChecked (s : State) : Prop where
  recBelow : ∀ o t n rk, n < two64 → encode [o, t, be64 n] = some rk → s.records.has rk = true →
    ∃ tk topic, encode [o, t] = some tk ∧ s.topics.get tk = some topic ∧ n < topic.totalRecords
  /-- `offs`: the (distinct) offsets of the record entries given for the topic -/
  recCount : ∀ o t tk topic, encode [o, t] = some tk → s.topics.get tk = some topic →
    ∃ offs : List Nat, offs.Nodup ∧ offs.length = topic.totalRecords ∧
      ∀ n ∈ offs, n < two64 ∧ ∃ rk, encode [o, t, be64 n] = some rk ∧ s.records.has rk = true
  bounded : ∀ tk topic, s.topics.get tk = some topic → topic.totalRecords < two64

/-- the premises are satisfiable beyond the empty state: one topic with two records -/
example : ∃ l : List Nat, l.Nodup ∧ l.length = 2 ∧ ∀ x ∈ l, x < 2 := ⟨[1, 0], by decide, rfl, by decide⟩

end Panacea.Aol
