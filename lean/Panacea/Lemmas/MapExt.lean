import Panacea.Lemmas.KV
/-! Two sorted maps that answer every `get` alike are equal — so a state built by `set`s does not depend on the order in
which distinct keys were set (the import of a genesis map visited in Go's random order). -/
namespace Panacea.Map
variable {V : Type}

theorem ext_sorted : ∀ (m1 m2 : Map V), m1.Sorted → m2.Sorted → (∀ k, m1.get k = m2.get k) → m1 = m2 := by
  intro m1 m2 h1 h2 h
  have p1 : m1.Pairwise (fun a b => Bytes.lt a.1 b.1 = true) := List.pairwise_map.mp h1
  have p2 : m2.Pairwise (fun a b => Bytes.lt a.1 b.1 = true) := List.pairwise_map.mp h2
  have nd : ∀ {m : Map V}, m.Pairwise (fun a b => Bytes.lt a.1 b.1 = true) → m.Nodup :=
    fun p => p.imp fun hab e => Bytes.lt_ne hab (congrArg Prod.fst e)
  -- the same entries (read off by `get`), each once, in ascending order
  refine eq_of_perm_of_sorted (f := Prod.fst) p1 p2 ((List.perm_ext_iff_of_nodup (nd p1) (nd p2)).mpr fun e => ?_)
  exact ⟨fun he => mem_of_get (h e.1 ▸ get_of_mem_sorted h1 he),
    fun he => mem_of_get (h e.1 ▸ get_of_mem_sorted h2 he)⟩

theorem get_append (a b : Map V) (k : Bytes) : (a ++ b).get k = (a.get k).or (b.get k) := by
  induction a with
  | nil => rfl
  | cons e a ih =>
    obtain ⟨k0, v0⟩ := e
    rw [List.cons_append, get_cons, get_cons, ih]
    split <;> rfl

/-- last write wins, hence `l.reverse` -/
theorem get_foldl_set (l : List (Bytes × V)) (acc : Map V) (k : Bytes) :
    (l.foldl (fun m e => m.set e.1 e.2) acc).get k = (get l.reverse k).or (acc.get k) := by
  induction l generalizing acc with
  | nil => rfl
  | cons e l ih =>
    obtain ⟨k0, v0⟩ := e
    rw [List.foldl_cons, ih, List.reverse_cons, get_append, get_set, Option.or_assoc, get_cons]
    split <;> rfl

theorem sorted_foldl_set (l : List (Bytes × V)) (acc : Map V) (h : acc.Sorted) :
    (l.foldl (fun m e => m.set e.1 e.2) acc).Sorted := by
  induction l generalizing acc with
  | nil => exact h
  | cons e l ih => exact ih _ (sorted_set h)

theorem get_perm {l l' : List (Bytes × V)} (hp : l'.Perm l) (hd : (keys l).Nodup) (k : Bytes) : get l' k = get l k := by
  cases hg : get l k with
  | some v => exact get_of_mem_nodup ((hp.map _).nodup_iff.mpr hd) (hp.mem_iff.mpr (mem_of_get hg))
  | none =>
    rw [get_eq_none_iff] at hg ⊢
    exact fun h => hg ((hp.map _).mem_iff.mp h)

theorem get_foldl_set_of_nodup (l : List (Bytes × V)) (hd : (keys l).Nodup) (acc : Map V) (k : Bytes) :
    (l.foldl (fun m e => m.set e.1 e.2) acc).get k = (get l k).or (acc.get k) := by
  rw [get_foldl_set, get_perm (List.reverse_perm l) hd]

theorem foldl_set_perm (l l' : List (Bytes × V)) (hp : l'.Perm l) (hd : (l.map (·.1)).Nodup) :
    l'.foldl (fun (m : Map V) e => m.set e.1 e.2) ([] : Map V) = l.foldl (fun (m : Map V) e => m.set e.1 e.2) ([] : Map V) := by
  apply ext_sorted _ _ (sorted_foldl_set l' [] sorted_nil) (sorted_foldl_set l [] sorted_nil)
  intro k
  rw [get_foldl_set_of_nodup l hd, get_foldl_set_of_nodup l' ((hp.map _).nodup_iff.mpr hd), get_perm hp hd]

end Panacea.Map
