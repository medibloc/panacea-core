import Panacea.Lemmas.KV
/-! `prefixView` (the iteration source of a `prefix.Store`) against the store it views; the number of keys under a prefix. -/
namespace Panacea.Map
variable {V : Type}

theorem mem_prefixView {m : Map V} {p k' : Bytes} {v : V} :
    (k', v) ∈ m.prefixView p ↔ (p ++ k', v) ∈ m := by
  unfold prefixView
  simp only [List.mem_map, List.mem_filter]
  constructor
  · rintro ⟨⟨k, w⟩, ⟨hm, hp⟩, he⟩
    simp only [Prod.mk.injEq] at he
    obtain ⟨rfl, rfl⟩ := he
    obtain ⟨r, rfl⟩ := Bytes.isPrefixOf_iff.mp hp
    simpa using hm
  · intro h
    exact ⟨(p ++ k', v), ⟨h, Bytes.isPrefixOf_append p k'⟩, by simp⟩

theorem get_prefixView (m : Map V) (p k : Bytes) : Map.get (m.prefixView p) k = m.get (p ++ k) := by
  induction m with
  | nil => rfl
  | cons e m ih =>
    obtain ⟨k0, v0⟩ := e
    rw [get_cons, ← ih, prefixView, List.filter_cons]
    by_cases hp : p.isPrefixOf k0 = true
    · obtain ⟨r, rfl⟩ := Bytes.isPrefixOf_iff.mp hp
      rw [if_pos hp, List.map_cons, get_cons, List.drop_left]
      simp only [List.append_cancel_left_eq]
      rfl
    · rw [if_neg hp, if_neg]
      · rfl
      · rintro rfl
        exact hp (Bytes.isPrefixOf_append p k)

theorem mem_prefixView_iff_get {m : Map V} (hs : m.Sorted) {p i : Bytes} {v : V} :
    (i, v) ∈ m.prefixView p ↔ m.get (p ++ i) = some v :=
  mem_prefixView.trans ⟨get_of_mem_sorted hs, mem_of_get⟩

theorem prefixView_sorted {m : Map V} (hs : m.Sorted) (p : Bytes) : Sorted (m.prefixView p) := by
  unfold Sorted keys prefixView at *
  rw [List.map_map, List.pairwise_map]
  refine ((List.pairwise_map.mp hs).filter _).imp_of_mem fun {a b} ha hb hlt => ?_
  obtain ⟨ra, hra⟩ := Bytes.isPrefixOf_iff.mp (List.mem_filter.mp ha).2
  obtain ⟨rb, hrb⟩ := Bytes.isPrefixOf_iff.mp (List.mem_filter.mp hb).2
  rw [hra, hrb, Bytes.lt_append_left] at hlt
  simpa [hra, hrb] using hlt

theorem prefixView_prefixed (p : Bytes) (l : Map V) : prefixView (l.map fun e => (p ++ e.1, e.2)) p = l := by
  unfold prefixView
  induction l with
  | nil => rfl
  | cons e l ih =>
    simp only [List.map_cons, List.filter_cons, Bytes.isPrefixOf_append, if_true, List.drop_left']
    rw [ih]

theorem sorted_prefixed (p : Bytes) (l : Map V) (hs : Sorted l) : Sorted (l.map fun e => (p ++ e.1, e.2)) := by
  unfold Sorted keys at *
  rw [List.map_map, List.pairwise_map]
  exact (List.pairwise_map.mp hs).imp fun {a b} h => by simpa [Bytes.lt_append_left] using h

def countP (p : Bytes) (ks : List Bytes) : Nat := (ks.filter (fun k => p.isPrefixOf k)).length

theorem countP_eq (p : Bytes) (ks : List Bytes) : countP p ks = ks.countP (fun k => p.isPrefixOf k) :=
  List.countP_eq_length_filter.symm

theorem prefixView_length (m : Map V) (p : Bytes) : (m.prefixView p).length = countP p m.keys := by
  unfold prefixView countP keys
  rw [List.filter_map, List.length_map, List.length_map]
  rfl

theorem countP_cons (p k : Bytes) (b : List Bytes) :
    countP p (k :: b) = (if p.isPrefixOf k then 1 else 0) + countP p b := by
  rw [countP_eq, countP_eq, List.countP_cons, Nat.add_comm]

theorem countP_eq_zero_iff {p : Bytes} {ks : List Bytes} : countP p ks = 0 ↔ ∀ k ∈ ks, p.isPrefixOf k = false := by
  rw [countP_eq, List.countP_eq_zero]
  simp only [Bool.not_eq_true]

theorem countP_le_length (p : Bytes) (ks : List Bytes) : countP p ks ≤ ks.length := List.length_filter_le _ _

theorem keys_set_existing {m : Map V} {k : Bytes} {v : V} (hs : m.Sorted) (hf : m.has k = true) :
    (m.set k v).keys = m.keys :=
  eq_of_perm_of_sorted (f := id) (sorted_set hs) hs
    (keys_perm (sorted_set hs) (sorted_nodup hs) fun k' => by
      rw [mem_keys_set, or_iff_right_of_imp fun h => h ▸ has_iff_mem_keys.mp hf])

theorem count_set_fresh {m : Map V} {k : Bytes} {v : V} (p : Bytes) (hs : m.Sorted) (hf : m.get k = none) :
    countP p (m.set k v).keys = countP p m.keys + (if p.isPrefixOf k then 1 else 0) := by
  have hp : (m.set k v).keys.Perm (k :: m.keys) :=
    keys_perm (sorted_set hs) (List.nodup_cons.mpr ⟨get_eq_none_iff.mp hf, sorted_nodup hs⟩) fun k' => by
      rw [mem_keys_set, List.mem_cons]
  rw [countP_eq, hp.countP_eq, ← countP_eq, countP_cons, Nat.add_comm]

theorem count_del_present {m : Map V} {k : Bytes} (p : Bytes) (hs : m.Sorted) (hf : m.has k = true) :
    countP p (m.del k).keys + (if p.isPrefixOf k then 1 else 0) = countP p m.keys := by
  have hk := has_iff_mem_keys.mp hf
  have hp : m.keys.Perm (k :: (m.del k).keys) :=
    keys_perm hs (List.nodup_cons.mpr ⟨fun h => (mem_keys_del.mp h).1 rfl, sorted_nodup (sorted_del hs)⟩)
      fun k' => by
        rw [List.mem_cons, mem_keys_del]
        by_cases he : k' = k
        · simp only [he, hk, true_or]
        · simp only [he, false_or, ne_eq, not_false_eq_true, true_and]
  rw [countP_eq p m.keys, hp.countP_eq, ← countP_eq, countP_cons, Nat.add_comm]

end Panacea.Map
