import Panacea.Model.Pnft
import Panacea.Lemmas.PrefixView
import Panacea.Lemmas.Outcome
/-! The `x/nft` keys on NUL-free identifiers; `handle_holds` is the only walk down `handle`. -/
namespace Panacea.Pnft
open Panacea CompKey Validate

def NoNul (b : Bytes) : Prop := (0x00 : UInt8) ∉ b

theorem noNul_eq_ok {b : Bytes} : noNul b = .ok () ↔ NoNul b := by
  rw [noNul, Outcome.ite_err_eq_ok, and_iff_left rfl, List.contains_iff_mem]
  rfl

theorem nftKey_inj {d d' i i' : Bytes} (hd : NoNul d) (hd' : NoNul d')
    (h : nftKey d i = nftKey d' i') : d = d' ∧ i = i' := by
  unfold nftKey at h
  induction d generalizing d' with
  | nil =>
    cases d' with
    | nil => exact ⟨rfl, (List.cons.inj h).2⟩
    | cons y ys => exact absurd (List.mem_cons.mpr (.inl (List.cons.inj h).1)) hd'
  | cons x xs ih =>
    cases d' with
    | nil => exact absurd (List.mem_cons.mpr (.inl (List.cons.inj h).1.symm)) hd
    | cons y ys =>
      obtain ⟨rfl, ht⟩ := List.cons.inj h
      obtain ⟨rfl, rfl⟩ := ih (fun hm => hd (List.mem_cons_of_mem _ hm)) (fun hm => hd' (List.mem_cons_of_mem _ hm)) ht
      exact ⟨rfl, rfl⟩

theorem nftKey_eq_append (d i : Bytes) : nftKey d i = d ++ [0x00] ++ i := (List.append_assoc d [0x00] i).symm

/-- `d ++ [0x00]` is the prefix `queryPNFTs` iterates under. -/
theorem listPrefix_iff {d d' i' : Bytes} (hd : NoNul d) (hd' : NoNul d') :
    (d ++ [0x00]) <+: nftKey d' i' ↔ d = d' := by
  constructor
  · intro ⟨t, ht⟩
    exact (nftKey_inj hd hd' ((nftKey_eq_append d t).trans ht)).1
  · intro h
    exact ⟨i', h ▸ (nftKey_eq_append d i').symm⟩

theorem isPrefix_listPrefix {d d' i' : Bytes} (hd : NoNul d) (hd' : NoNul d') :
    (d ++ [0x00]).isPrefixOf (nftKey d' i') = decide (d = d') := by
  rw [Bool.eq_iff_iff, decide_eq_true_iff, List.isPrefixOf_iff_prefix]
  exact listPrefix_iff hd hd'

theorem validateBasic_createDenom_noNul {c : AddrCodec} {id name symbol description uri uriHash data creator : Bytes}
    (h : validateBasic c (.createDenom id name symbol description uri uriHash data creator) = .ok ()) : NoNul id := by
  simp only [validateBasic, pnftValidateBasic, Outcome.seq_eq_ok] at h
  exact noNul_eq_ok.mp h.2.1

theorem validateBasic_mintPNFT_noNul {c : AddrCodec} {denomId id name description uri uriHash data creator : Bytes}
    (h : validateBasic c (.mintPNFT denomId id name description uri uriHash data creator) = .ok ()) :
    NoNul denomId ∧ NoNul id := by
  simp only [validateBasic, pnftValidateBasic, Outcome.seq_eq_ok] at h
  exact ⟨noNul_eq_ok.mp h.2.2.2.1, noNul_eq_ok.mp h.2.2.2.2.1⟩

theorem getPNFT_eq_some {c : AddrCodec} {s : State} {d i : Bytes} {p : Pnft} (h : getPNFT c s d i = some p) :
    ∃ n, s.nfts.get (nftKey d i) = some n ∧ p = toPnft c s d i n := by
  obtain ⟨n, hn, hp⟩ := Option.map_eq_some_iff.mp h
  exact ⟨n, hn, hp.symm⟩

/-- An accepted message, by kind: the guards the server checked and the state it returned. -/
inductive Effect (c : AddrCodec) (now : Int) (s : State) : PnftMsg → State → Prop where
  | createDenom {id name symbol description uri uriHash data creator : Bytes}
      (hid : NoNul id) (hnew : s.classes.get id = none) :
      Effect c now s (.createDenom id name symbol description uri uriHash data creator)
        { s with classes := s.classes.set id (newClass id name symbol description uri uriHash data creator) }
  | updateDenom {id name symbol description uri uriHash data updater : Bytes} {d : Class}
      (hget : s.classes.get id = some d) (hown : updater = d.owner) :
      Effect c now s (.updateDenom id name symbol description uri uriHash data updater)
        { s with classes := s.classes.set id { d with
            name := if name ≠ [] then name else d.name,
            symbol := if symbol ≠ [] then symbol else d.symbol,
            description := if description ≠ [] then description else d.description,
            uri := if uri ≠ [] then uri else d.uri,
            uriHash := if uriHash ≠ [] then uriHash else d.uriHash,
            data := if data ≠ [] then data else d.data } }
  | deleteDenom {id remover : Bytes} {d : Class}
      (hget : s.classes.get id = some d) (hown : remover = d.owner) (hsup : getSupply s id = 0) :
      Effect c now s (.deleteDenom id remover) { s with classes := s.classes.del id }
  | transferDenom {id sender receiver : Bytes} {d : Class}
      (hget : s.classes.get id = some d) (hown : sender = d.owner) :
      Effect c now s (.transferDenom id sender receiver)
        { s with classes := s.classes.set id { d with owner := receiver } }
  -- keyed by the stored `d.id`, not by `denomId` (`handle` builds the keys from the class it looked up); the two
  -- agree under `PInv.classKey`
  | mintPNFT {denomId id name description uri uriHash data creator receiver : Bytes} {d : Class}
      (hdn : NoNul denomId) (hid : NoNul id) (hget : s.classes.get denomId = some d) (hown : d.owner = creator)
      (hdec : c.dec creator = some receiver) (hnew : s.nfts.get (nftKey d.id id) = none) :
      Effect c now s (.mintPNFT denomId id name description uri uriHash data creator)
        { s with nfts := s.nfts.set (nftKey d.id id) (newNft d.id id name description uri uriHash data creator now),
                 owners := s.owners.set (nftKey d.id id) receiver,
                 ownerIdx := s.ownerIdx.set (ownerIdxKey receiver d.id id) (),
                 supply := s.supply.set d.id (wrap64 (getSupply s d.id + 1)) }
  | transferPNFT {denomId id sender receiver r : Bytes} {n : Nft}
      (hget : s.nfts.get (nftKey denomId id) = some n) (hown : sender = ownerText c (getOwner s denomId id))
      (hdec : c.dec receiver = some r) (hcls : hasClass s denomId = true) :
      Effect c now s (.transferPNFT denomId id sender receiver)
        (setOwner (deleteOwner s denomId id (getOwner s denomId id)) denomId id r)
  | burnPNFT {denomId id burner : Bytes} {n : Nft}
      (hget : s.nfts.get (nftKey denomId id) = some n) (hown : burner = ownerText c (getOwner s denomId id))
      (hcls : hasClass s denomId = true) :
      Effect c now s (.burnPNFT denomId id burner)
        { s with nfts := s.nfts.del (nftKey denomId id),
                 owners := s.owners.del (nftKey denomId id),
                 ownerIdx := s.ownerIdx.del (ownerIdxKey (getOwner s denomId id) denomId id),
                 supply := s.supply.set denomId (decU64 (getSupply s denomId)) }

open Outcome in
theorem handle_holds (c : AddrCodec) (now : Int) (s : State) (m : PnftMsg) :
    (handle c now s m).Holds (Effect c now s m) ((validateBasic c m).isPanic = true) := by
  unfold handle
  cases hv : validateBasic c m with
  | err e => trivial
  | panic e => exact rfl
  | ok u =>
    dsimp only
    -- the guards in the server's order; `‹_›` is what the lookup just split on found
    split
    · refine Holds.ite_err fun hc => ?_
      exact Effect.createDenom (validateBasic_createDenom_noNul hv) (Option.not_isSome_iff_eq_none.mp hc)
    · split
      · trivial
      refine Holds.ite_ne_err fun hc => ?_
      exact Effect.updateDenom ‹_› hc
    · split
      · trivial
      refine Holds.ite_ne_err fun hc => Holds.ite_ne_err fun hs => ?_
      exact Effect.deleteDenom ‹_› hc hs
    · split
      · trivial
      refine Holds.ite_ne_err fun hc => ?_
      exact Effect.transferDenom ‹_› hc
    · split
      · trivial
      refine Holds.ite_ne_err fun hc => ?_
      split
      · trivial
      refine Holds.ite_err fun hx => ?_
      exact Effect.mintPNFT (validateBasic_mintPNFT_noNul hv).1 (validateBasic_mintPNFT_noNul hv).2 ‹_› hc ‹_›
        (Option.not_isSome_iff_eq_none.mp hx)
    · split
      · trivial
      refine Holds.ite_ne_err fun hc => ?_
      split
      · trivial
      refine Holds.ite_err fun hx => ?_
      obtain ⟨n, hn, rfl⟩ := getPNFT_eq_some ‹_›
      exact Effect.transferPNFT hn hc ‹_› (by simpa using hx)
    · split
      · trivial
      refine Holds.ite_ne_err fun hc => Holds.ite_err fun hx => ?_
      obtain ⟨n, hn, rfl⟩ := getPNFT_eq_some ‹_›
      exact Effect.burnPNFT hn hc (by simpa using hx)

theorem effect_of_handle {c : AddrCodec} {now : Int} {s s' : State} {m : PnftMsg} (h : handle c now s m = .ok s') :
    Effect c now s m s' :=
  (handle_holds c now s m).of_eq_ok h

theorem rejected {c : AddrCodec} {now : Int} {s : State} {m : PnftMsg} (h : ∀ s', ¬ Effect c now s m s') :
    (handle c now s m).isOk = false :=
  Outcome.isOk_eq_false fun s' h' => h s' (effect_of_handle h')

/-- The effect is about `op.1`, `op.2`: destructure `op` before `cases` on it, or prove the step for free `now m` as a
lemma about `Effect` (as `pinv_step`, `oinv_step`). -/
theorem step_cases {c : AddrCodec} {s : State} {op : Int × PnftMsg} {P : State → Prop} (h0 : P s)
    (h1 : ∀ s', Effect c op.1 s op.2 s' → P s') : P (step c s op) := by
  unfold step
  split
  · next s' h => exact h1 s' (effect_of_handle h)
  · exact h0

theorem step_of_not_ok {c : AddrCodec} {s : State} {op : Int × PnftMsg} (h : (handle c op.1 s op.2).isOk = false) :
    step c s op = s := by
  unfold step
  split
  · next hd =>
    rw [hd] at h
    cases h
  · rfl

end Panacea.Pnft
