import Panacea.Lemmas.AolRec
import Panacea.Lemmas.PrefixView
/-! `CountInv` and its preservation: every accepted message rewrites one topic's entry and changes the writers under
that topic only (`CountInv.of_update`). -/
namespace Panacea.Aol
open Panacea CompKey Map

/-- Keys are well-formed encodings and the counters match the listings (modulo `2^64`, the width of the
Go counters; the actual numbers of entries are far below that). -/
structure CountInv (s : State) : Prop where
  sortedT : s.topics.Sorted
  sortedW : s.writers.Sorted
  topicKeys : ∀ k ∈ s.topics.keys, ∃ o t, encode [o, t] = some k
  writerKeys : ∀ k ∈ s.writers.keys, ∃ o t w, encode [o, t, w] = some k
  writerHasTopic : ∀ o t w wk, encode [o, t, w] = some wk → s.writers.has wk = true →
    ∃ tk, encode [o, t] = some tk ∧ s.topics.has tk = true
  topicsCount : ∀ o ok, encode [o] = some ok →
    ((s.owners.get ok).getD {}).totalTopics % two64 = countP ok s.topics.keys % two64
  writersCount : ∀ o t tk topic, encode [o, t] = some tk → s.topics.get tk = some topic →
    topic.totalWriters % two64 = countP tk s.writers.keys % two64

theorem countInv_empty : CountInv {} := by
  refine ⟨sorted_nil, sorted_nil, ?_, ?_, ?_, ?_, ?_⟩
  · intro k hk
    simp [keys] at hk
  · intro k hk
    simp [keys] at hk
  · intro o t w wk _ h
    cases h
  · intro o ok _
    rfl
  · intro o t tk topic _ h
    simp [Map.get] at h

/-- `hW`, `hother`: the writers change under `tk` only; `hself`, `hcT`: the two counters that can be affected fit. -/
theorem CountInv.of_update {s s' : State} (hi : CountInv s) {o t tk : Bytes} {new : Topic}
    (htk : encode [o, t] = some tk) (ht : s'.topics = s.topics.set tk new) (hsW : s'.writers.Sorted)
    (hW : ∀ k ∈ s'.writers.keys, k ∈ s.writers.keys ∨ ∃ w, encode [o, t, w] = some k)
    (hother : ∀ o' t' tk', encode [o', t'] = some tk' → tk' ≠ tk →
      countP tk' s'.writers.keys = countP tk' s.writers.keys)
    (hself : new.totalWriters % two64 = countP tk s'.writers.keys % two64)
    (hcT : ∀ o ok, encode [o] = some ok →
      ((s'.owners.get ok).getD {}).totalTopics % two64 = countP ok s'.topics.keys % two64) : CountInv s' := by
  refine ⟨ht ▸ sorted_set hi.sortedT, hsW, ?_, ?_, ?_, hcT, ?_⟩
  · intro k hk
    rw [ht] at hk
    rcases mem_keys_set.mp hk with rfl | hk
    · exact ⟨o, t, htk⟩
    · exact hi.topicKeys k hk
  · intro k hk
    rcases hW k hk with hk | ⟨w, hw⟩
    · exact hi.writerKeys k hk
    · exact ⟨o, t, w, hw⟩
  · intro o' t' w' wk hwk hw
    rw [ht]
    rcases hW wk (has_iff_mem_keys.mp hw) with hk | ⟨w, hw'⟩
    · obtain ⟨tk', h1, h2⟩ := hi.writerHasTopic o' t' w' wk hwk (has_iff_mem_keys.mpr hk)
      exact ⟨tk', h1, by rw [has_set, h2, Bool.or_true]⟩
    · obtain ⟨rfl, rfl, _⟩ := encode3_inj hwk hw'
      exact ⟨tk, htk, by rw [has_set, decide_eq_true rfl, Bool.true_or]⟩
  · intro o' t' tk' topic htk' hg
    rw [ht] at hg
    by_cases he : tk' = tk
    · subst he
      rw [get_set_eq] at hg
      cases hg
      exact hself
    · rw [get_set_ne he] at hg
      rw [hother o' t' tk' htk' he]
      exact hi.writersCount o' t' tk' topic htk' hg

theorem CountInv.topicsCount_set {s : State} (hi : CountInv s) {tk : Bytes} {topic : Topic}
    (hget : s.topics.get tk = some topic) (new : Topic) (o ok : Bytes) (hok : encode [o] = some ok) :
    ((s.owners.get ok).getD {}).totalTopics % two64 = countP ok (s.topics.set tk new).keys % two64 := by
  rw [keys_set_existing hi.sortedT (Map.has_true_iff.mpr ⟨_, hget⟩)]
  exact hi.topicsCount o ok hok

theorem CountInv.countP_of_no_topic {s : State} (hi : CountInv s) {o t tk : Bytes} (htk : encode [o, t] = some tk)
    (hnew : s.topics.get tk = none) : countP tk s.writers.keys = 0 := by
  refine countP_eq_zero_iff.mpr fun k hk => Bool.eq_false_iff.mpr fun hp => ?_
  obtain ⟨o2, t2, w2, hk2⟩ := hi.writerKeys k hk
  obtain ⟨tk2, e1, e2⟩ := hi.writerHasTopic o2 t2 w2 k hk2 (has_iff_mem_keys.mpr hk)
  rw [← (isPrefixOf_key_iff htk e1 hk2 rfl).mp hp, Map.has_false_iff.mpr hnew] at e2
  exact Bool.noConfusion e2

/-- Writing a fresh `n+1`-component key adds one to the count under the key of its first `n` components and to no other
`n`-component key's. -/
theorem count_set_key {V} {m : Map V} {xs ys : List Bytes} {z p q k : Bytes} (v : V) (hs : m.Sorted)
    (hnew : m.get k = none) (hp : encode xs = some p) (hq : encode ys = some q) (hk : encode (ys ++ [z]) = some k)
    (hl : xs.length = ys.length) :
    countP p (m.set k v).keys = countP p m.keys + if p = q then 1 else 0 := by
  rw [count_set_fresh _ hs hnew]
  simp only [isPrefixOf_key_iff hp hq hk hl]

theorem count_del_key {V} {m : Map V} {xs ys : List Bytes} {z p q k : Bytes} (hs : m.Sorted)
    (hhas : m.has k = true) (hp : encode xs = some p) (hq : encode ys = some q) (hk : encode (ys ++ [z]) = some k)
    (hl : xs.length = ys.length) :
    countP p (m.del k).keys + (if p = q then 1 else 0) = countP p m.keys := by
  rw [← count_del_present p hs hhas]
  simp only [isPrefixOf_key_iff hp hq hk hl]

theorem Effect.countInv {c : AddrCodec} {now : Int} {s s' : State} {m : Msg} {r : Resp}
    (h : Effect c now s m s' r) (hi : CountInv s) : CountInv s' := by
  match h with
  | .createTopic (tk := tk) (okey := ok) ho htk hnew hok =>
    refine hi.of_update htk rfl hi.sortedW (fun k hk => .inl hk) (fun _ _ _ _ _ => rfl) ?_ ?_
    · show 0 % two64 = _
      rw [hi.countP_of_no_topic htk hnew]
    · intro o' ok' hok'
      show ((Map.get (s.owners.set ok _) ok').getD {}).totalTopics % two64 = countP ok' (s.topics.set tk _).keys % two64
      rw [count_set_key _ hi.sortedT hnew hok' hok htk rfl]
      by_cases he : ok' = ok
      · subst he
        rw [get_set_eq, if_pos rfl, Option.getD_some]
        exact wrap64_succ_mod (hi.topicsCount o' ok' hok')
      · rw [get_set_ne he, if_neg he]
        exact hi.topicsCount o' ok' hok'
  | .addWriter (w := w) (tk := tk) (wk := wk) ho hw htk hget hwk hnew =>
    refine hi.of_update htk rfl (sorted_set hi.sortedW) ?_ ?_ ?_ (hi.topicsCount_set hget _)
    · intro k hk
      rcases mem_keys_set.mp hk with rfl | hk
      · exact .inr ⟨w, hwk⟩
      · exact .inl hk
    · intro o' t' tk' htk' he
      show countP tk' (s.writers.set wk _).keys = _
      rw [count_set_key _ hi.sortedW hnew htk' htk hwk rfl, if_neg he]
      rfl
    · show wrap64 _ % two64 = countP tk (s.writers.set wk _).keys % two64
      rw [count_set_key _ hi.sortedW hnew htk htk hwk rfl, if_pos rfl]
      exact wrap64_succ_mod (hi.writersCount _ _ _ _ htk hget)
  | .deleteWriter (tk := tk) (wk := wk) ho hw htk hwk hsome =>
    -- `DeleteWriter` does not look the topic up; that it exists is the invariant
    obtain ⟨tk0, htk0, hhas⟩ := hi.writerHasTopic _ _ _ wk hwk hsome
    cases htk.symm.trans htk0
    obtain ⟨topic, hget⟩ := Map.has_true_iff.mp hhas
    refine hi.of_update htk rfl (sorted_del hi.sortedW) ?_ ?_ ?_ (hi.topicsCount_set hget _)
    · exact fun k hk => .inl (mem_keys_del.mp hk).2
    · intro o' t' tk' htk' he
      rw [← count_del_key hi.sortedW hsome htk' htk hwk rfl, if_neg he]
      rfl
    · refine decU64_mod (?_ : _ % two64 = _ % two64)
      rw [topicAt_of_get hget, hi.writersCount _ _ _ _ htk hget, ← count_del_key hi.sortedW hsome htk htk hwk rfl,
        if_pos rfl]
  | .addRecord (topic := topic) ho hw htk hget hwk hlisted hrk =>
    exact hi.of_update htk rfl hi.sortedW (fun k hk => .inl hk) (fun _ _ _ _ _ => rfl)
      (hi.writersCount _ _ _ topic htk hget) (hi.topicsCount_set hget _)
end Panacea.Aol
