import Panacea.Refine.Pnft
import Panacea.Lemmas.PnftInv
import Panacea.Lemmas.MapVals
/-!
# The listing functions of the translated `x/pnft` keeper

Loops over what the `x/nft` keeper returns, with an early return when an `Any` payload does not decode.  On a
well-formed world with sorted tables (taken from `PInv`) they return every item: in order, the items of the model's
listings on `abs` of the world, which are what the C12 listing-exactness theorems speak of.
-/
namespace Panacea.Refine.Pnft
open Panacea Panacea.Gen Panacea.Go Panacea.Validate
section
variable [Go.Proto pnfttypes.DenomMeta] [Go.Proto pnfttypes.PNFTMeta]
variable [Go.LawfulProto pnfttypes.DenomMeta] [Go.LawfulProto pnfttypes.PNFTMeta]
set_option linter.unusedSectionVars false

theorem getPNFTsByDenomId_run (bech : Go.Bech32) (w : Nft.World) (hwf : WF w) (hp : Pnft.PInv (abs w)) (d : Bytes) :
    pnftkeeper.Keeper.GetPNFTsByDenomId bech d w =
      P.ok ((Nft.getNFTsOfClass w d).map (fun n => some (pnftOf bech w d n.Id n)), none, w) := by
  unfold pnftkeeper.Keeper.GetPNFTsByDenomId
  have hdec : ∀ n ∈ Nft.getNFTsOfClass w d,
      (Go.unmarshalE (Go.anyValue n.Data) : pnfttypes.PNFTMeta × Go.Err).2 = none := by
    intro n hn
    unfold Nft.getNFTsOfClass at hn
    obtain ⟨e, he, rfl⟩ := List.mem_map.mp hn
    exact hwf.nftDec _ _ ((Map.mem_prefixView_iff_get (Map.sorted_mapVals.mp hp.sortedN)).mp he)
  dsimp only
  rw [forIn_collect (Nft.getNFTsOfClass w d) (fun n => some (pnftOf bech w d n.Id n)) _ ?_ default]
  · simp only [P.ok_bind, P.pure_eq]
    rfl
  · intro n hn acc
    simp only [hdec n hn, go_eval]
    rfl

/-- **`Query/PNFTs`**: the items of the translated listing are, in order, the items of the model's `queryPNFTs` -/
theorem getPNFTsByDenomId_refines (bech : Go.Bech32) (he : EncNil bech) (w : Nft.World) (hwf : WF w)
    (hp : Pnft.PInv (abs w)) (d : Bytes) :
    ∃ l : List pnfttypes.Pnft, pnftkeeper.Keeper.GetPNFTsByDenomId bech d w = P.ok (l.map some, none, w) ∧
      l.map toP = Pnft.queryPNFTs (codec bech) (abs w) d := by
  refine ⟨(Nft.getNFTsOfClass w d).map (fun n => pnftOf bech w d n.Id n), ?_, ?_⟩
  · rw [getPNFTsByDenomId_run bech w hwf hp d]
    simp [List.map_map, Function.comp_def]
  · unfold Pnft.queryPNFTs Nft.getNFTsOfClass
    rw [show (abs w).nfts = Map.mapVals toNft w.nfts from rfl, Map.prefixView_mapVals]
    simp only [List.map_map, Function.comp_def, toP_pnftOf bech he]
    rfl

theorem getPNFTsByDenomIdAndOwner_bad (bech : Go.Bech32) (w : Nft.World) (d owner : Bytes) (h : bech.dec owner = none) :
    ∃ e, pnftkeeper.Keeper.GetPNFTsByDenomIdAndOwner bech d owner w = P.ok ([], some e, w) := by
  unfold pnftkeeper.Keeper.GetPNFTsByDenomIdAndOwner Go.accAddressFromBech32
  simp only [h, go_eval]
  exact ⟨_, rfl⟩

theorem getPNFTsByDenomIdAndOwner_run (bech : Go.Bech32) (w : Nft.World) (hwf : WF w)
    (d owner o : Bytes) (h : bech.dec owner = some o) :
    pnftkeeper.Keeper.GetPNFTsByDenomIdAndOwner bech d owner w =
      P.ok ((Nft.getNFTsOfClassByOwner w d o).map (fun n => some (pnftOf bech w d n.Id n)), none, w) := by
  unfold pnftkeeper.Keeper.GetPNFTsByDenomIdAndOwner Go.accAddressFromBech32
  have hdec : ∀ n ∈ Nft.getNFTsOfClassByOwner w d o,
      (Go.unmarshalE (Go.anyValue n.Data) : pnfttypes.PNFTMeta × Go.Err).2 = none := by
    intro n hn
    unfold Nft.getNFTsOfClassByOwner at hn
    obtain ⟨e, _, he⟩ := List.mem_filterMap.mp hn
    exact hwf.nftDec _ _ he
  simp only [h, go_eval]
  rw [forIn_collect (Nft.getNFTsOfClassByOwner w d o) (fun n => some (pnftOf bech w d n.Id n)) _ ?_ default]
  · simp only [P.ok_bind]
    rfl
  · intro n hn acc
    simp only [hdec n hn, go_eval]
    rfl

/-- **`Query/PNFTsByDenomOwner`**: on a reachable world (the counting invariant holds) and a NUL-free denom id,
the translated listing returns, in order, the items of the model's `queryPNFTsByDenomOwner` -/
theorem getPNFTsByDenomIdAndOwner_refines (bech : Go.Bech32) (he : EncNil bech) (w : Nft.World) (hwf : WF w)
    (hp : Pnft.PInv (abs w)) (d owner o : Bytes) (hd : Pnft.NoNul d) (h : bech.dec owner = some o) :
    ∃ l : List pnfttypes.Pnft, pnftkeeper.Keeper.GetPNFTsByDenomIdAndOwner bech d owner w = P.ok (l.map some, none, w) ∧
      Pnft.queryPNFTsByDenomOwner (codec bech) (abs w) d owner = .ok (l.map toP) := by
  refine ⟨(Nft.getNFTsOfClassByOwner w d o).map (fun n => pnftOf bech w d n.Id n), ?_, ?_⟩
  · rw [getPNFTsByDenomIdAndOwner_run bech w hwf d owner o h]
    simp [List.map_map, Function.comp_def]
  · unfold Pnft.queryPNFTsByDenomOwner Nft.getNFTsOfClassByOwner
    rw [show (codec bech).dec owner = some o from h, List.map_map, List.map_filterMap]
    show Outcome.ok (List.filterMap _ (w.ownerIdx.prefixView _)) = _
    congr 2
    funext e
    rw [getPNFT_abs bech]
    cases hn : w.nfts.get (Pnft.nftKey d e.1) with
    | none => rfl
    | some n =>
      have hk := hp.tokenKey (Pnft.nftKey d e.1) (toNft n) (by rw [getNft_abs, hn]; rfl)
      have hid : e.1 = n.Id := (Pnft.nftKey_inj hd hk.2.1 hk.1).2
      simp only [Option.map_some, Function.comp_apply, hid, toP_pnftOf bech he]

theorem getAllDenoms_run (w : Nft.World) (hwf : WF w) (hp : Pnft.PInv (abs w)) :
    pnftkeeper.Keeper.GetAllDenoms w = P.ok (w.classes.map (fun e => some (denomOf e.2)), none, w) := by
  unfold pnftkeeper.Keeper.GetAllDenoms Nft.getClasses
  have hdec : ∀ c ∈ w.classes.map (fun e => some e.2), ∃ x, c = some x ∧
      (Go.unmarshalE (Go.anyValue x.Data) : pnfttypes.DenomMeta × Go.Err).2 = none := by
    intro c hc
    obtain ⟨e, he, rfl⟩ := List.mem_map.mp hc
    exact ⟨e.2, rfl, hwf.classDec _ _ (Map.get_of_mem_sorted (Map.sorted_mapVals.mp hp.sortedC) he)⟩
  dsimp only
  rw [forIn_collect (w.classes.map (fun e => some e.2)) (fun c => c.map denomOf) _ ?_ default]
  · simp only [P.ok_bind, P.pure_eq, List.map_map, Function.comp_def, Option.map_some]
    rfl
  · intro c hc acc
    obtain ⟨x, rfl, hx⟩ := hdec c hc
    simp only [newDenomFromClass_run x hx, go_eval]

def toD (d : pnfttypes.Denom) : Pnft.Class :=
  Pnft.newClass d.Id d.Name d.Symbol d.Description d.Uri d.UriHash d.Data d.Owner

theorem toD_denomOf (c : Nft.Class) : toD (denomOf c) = toClass c := rfl

/-- **`Query/DenomsByOwner`** (F7): the translated handler returns, in store order, exactly the denoms
whose recorded owner string is the requested one — the model's `queryDenomsByOwner` -/
theorem denomsByOwner_refines (w : Nft.World) (hwf : WF w) (hp : Pnft.PInv (abs w))
    (req : pnfttypes.QueryDenomsByOwnerRequest) :
    ∃ l : List pnfttypes.Denom,
      pnftkeeper.Keeper.DenomsByOwner (some req) w = P.ok (some { Denoms := l.map some }, none, w) ∧
      l.map toD = Pnft.queryDenomsByOwner (abs w) req.Owner := by
  refine ⟨((w.classes.map fun e => denomOf e.2).filter fun d => decide (d.Owner = req.Owner)), ?_, ?_⟩
  · unfold pnftkeeper.Keeper.DenomsByOwner
    simp only [go_eval, getAllDenoms_run w hwf hp]
    have hm : (w.classes.map fun e => some (denomOf e.2)) = (w.classes.map fun e => denomOf e.2).map some := by
      simp [List.map_map, Function.comp_def]
    rw [hm, forIn_filter _ (Option.any fun d => decide (d.Owner = req.Owner)) _ ?_ default]
    · simp only [P.ok_bind, List.filter_map, Function.comp_def, Option.any_some]
      rfl
    · intro x hx acc
      obtain ⟨x, _, rfl⟩ := List.mem_map.mp hx
      by_cases h : x.Owner = req.Owner <;> simp only [h, go_eval, Option.any_some]
  · simp only [Pnft.queryDenomsByOwner, abs, Map.mapVals, List.map_map, List.filter_map, Function.comp_def]
    rfl

/-- the gRPC endpoint `Keeper.PNFT` on a non-nil request is `GetPNFT` of the requested pair, its error passed on and its
token wrapped in the response; the three other endpoints have the same shape and no theorem -/
theorem pnftQuery_refines (bech : Go.Bech32) (w : Nft.World) (req : pnfttypes.QueryPNFTRequest) :
    pnftkeeper.Keeper.PNFT bech (some req) w =
      (pnftkeeper.Keeper.GetPNFT bech req.DenomId req.Id w).bind fun t =>
        if (!t.2.1.isNone) = true then P.ok (none, t.2.1, t.2.2) else P.ok (some { Pnft := t.1 }, none, t.2.2) := by
  unfold pnftkeeper.Keeper.PNFT
  simp only [go_eval]
  rfl

end
end Panacea.Refine.Pnft
