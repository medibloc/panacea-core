import Panacea.Go.Prelude
import Panacea.Model.CompKey
import Panacea.Lemmas.RawStore
/-!
The translated keepers work on one raw store per module (`World.store name`, keys `prefix ++ key`, values protobuf
bytes); the models keep typed tables.  `table conv m p` reads the entries of `m` under prefix `p` as such a table; the
lemmas say what `World.setStore`, `Map.set` and `Map.del` on the raw store do to it, and that `Decodes` survives them.
A single-byte prefix is passed as the byte where two tables are told apart (`table_set`, `table_del`), as `Bytes`
elsewhere.
-/
namespace Panacea.Refine.Aol
open Panacea Panacea.Go

def toCodec (bech : Go.Bech32) : CompKey.AddrCodec := { enc := bech.enc, dec := bech.dec }

def table {G V : Type} [Inhabited G] [Go.Proto G] (conv : G → V) (m : Map Bytes) (p : Bytes) : Map V :=
  Map.mapVals (fun v => conv ((Go.Proto.unmarshal v : Option G).getD default)) (m.prefixView p)

/-- what keeps `MustUnmarshal` of a value stored under `p` from panicking (`read_ok`) -/
def Decodes (G : Type) [Go.Proto G] (m : Map Bytes) (p : Bytes) : Prop :=
  ∀ k v, m.get (p ++ k) = some v → (Go.Proto.unmarshal v : Option G).isSome = true

theorem find_setEntry (n : String) (m : Map Bytes) (l : List (String × Map Bytes)) :
    (if l.any (·.1 = n) then l.map fun e => if e.1 = n then (n, m) else e else l ++ [(n, m)]).find? (·.1 = n) =
      some (n, m) := by
  induction l with
  | nil => simp
  | cons e l ih =>
    by_cases he : e.1 = n
    · simp [he]
    · have hany : (e :: l).any (·.1 = n) = l.any (·.1 = n) := by simp [he]
      rw [hany]
      split at ih
      · next h =>
        rw [if_pos h, List.map_cons, if_neg he, List.find?_cons, decide_eq_false he]
        exact ih
      · next h =>
        rw [if_neg h, List.cons_append, List.find?_cons, decide_eq_false he]
        exact ih

@[simp] theorem store_setStore (w : World) (n : String) (m : Map Bytes) : (w.setStore n m).store n = m := by
  unfold World.setStore World.store
  rw [apply_ite World.stores, find_setEntry]

@[simp] theorem time_setStore (w : World) (n : String) (m : Map Bytes) :
    (w.setStore n m).blockTimeNano = w.blockTimeNano := by
  unfold World.setStore
  split <;> rfl

section tables
variable {G V : Type} [Inhabited G] [Go.Proto G] (conv : G → V)

theorem _root_.Panacea.Refine.AolExport.table_eq (m : Map Bytes) (p : Bytes) :
    table conv m p = (m.prefixView p).map (fun e => (e.1, conv ((Go.Proto.unmarshal e.2 : Option G).getD default))) :=
  rfl

theorem table_get (m : Map Bytes) (p k : Bytes) :
    Map.get (table conv m p) k = (m.get (p ++ k)).map fun v => conv ((Go.Proto.unmarshal v : Option G).getD default) := by
  unfold table
  rw [Map.get_mapVals, Map.get_prefixView]

theorem table_keys (m : Map Bytes) (p : Bytes) : Map.keys (table conv m p) = Map.keys (m.prefixView p) :=
  Map.keys_mapVals _ _

theorem table_sorted {m : Map Bytes} (hs : m.Sorted) {p : Bytes} : Map.Sorted (table conv m p) :=
  Map.sorted_mapVals.mpr (Map.prefixView_sorted hs p)

theorem table_has (m : Map Bytes) (p k : Bytes) : Map.has (table conv m p) k = m.has (p ++ k) := by
  unfold Map.has
  rw [table_get]
  cases m.get (p ++ k) <;> rfl

theorem table_set_same (m : Map Bytes) (hs : m.Sorted) (p k v : Bytes) :
    table conv (m.set (p ++ k) v) p = Map.set (table conv m p) k (conv ((Go.Proto.unmarshal v : Option G).getD default)) := by
  unfold table
  rw [Map.prefixView_set_same m hs, Map.set_mapVals]

theorem pfx_ne {a b : UInt8} (k : Bytes) (h : a ≠ b) : List.isPrefixOf [a] ([b] ++ k) = false := by
  simp [List.isPrefixOf, h]

theorem table_set (m : Map Bytes) (hs : m.Sorted) (a b : UInt8) (k v : Bytes) :
    table conv (m.set ([b] ++ k) v) [a] =
      if a = b then Map.set (table conv m [a]) k (conv ((Go.Proto.unmarshal v : Option G).getD default))
      else table conv m [a] := by
  split
  · next h =>
    subst h
    exact table_set_same conv m hs _ k v
  · next h =>
    unfold table
    rw [Map.prefixView_set_other m hs _ _ v (pfx_ne k h)]

theorem table_del (m : Map Bytes) (hs : m.Sorted) (a b : UInt8) (k : Bytes) :
    table conv (m.del ([b] ++ k)) [a] = if a = b then Map.del (table conv m [a]) k else table conv m [a] := by
  unfold table
  split
  · next h =>
    subst h
    rw [Map.prefixView_del_same m hs, Map.del_mapVals]
  · next h => rw [Map.prefixView_del_other m hs _ _ (pfx_ne k h)]
end tables

theorem decodes_set_same (G : Type) [Inhabited G] [Go.Proto G] [Go.LawfulProto G] (m : Map Bytes) (p k : Bytes) (x : G)
    (h : Decodes G m p) : Decodes G (m.set (p ++ k) (Go.Proto.marshal x)) p := by
  intro k' v hv
  rcases Map.get_set_cases hv with ⟨-, rfl⟩ | hv
  · rw [Go.LawfulProto.unmarshal_marshal]
    rfl
  · exact h k' v hv

theorem decodes_set_other {G : Type} [Go.Proto G] {m : Map Bytes} {a b : UInt8} {k v : Bytes} (hab : a ≠ b)
    (h : Decodes G m [a]) : Decodes G (m.set ([b] ++ k) v) [a] := by
  intro k' v' hv
  rcases Map.get_set_cases hv with ⟨hk, -⟩ | hv
  · cases hab (List.head_eq_of_cons_eq hk)
  · exact h k' v' hv

theorem decodes_del {G : Type} [Go.Proto G] {m : Map Bytes} {p key : Bytes}
    (h : Decodes G m p) : Decodes G (m.del key) p :=
  fun k' v' hv => h k' v' (Map.get_del_cases hv).2

/-- what `Get…` returns for key `k` under prefix `p` -/
def readG (G : Type) [Inhabited G] [Go.Proto G] (m : Map Bytes) (p k : Bytes) : G :=
  ((Go.Proto.unmarshal ((m.get (p ++ k)).getD []) : Option G).getD default)

theorem mustUnmarshal_ok {G : Type} [Inhabited G] [Go.Proto G] {v : Bytes}
    (h : (Go.Proto.unmarshal v : Option G).isSome = true) :
    (Go.mustUnmarshal v : P G) = P.ok ((Go.Proto.unmarshal v : Option G).getD default) := by
  unfold Go.mustUnmarshal
  cases hu : (Go.Proto.unmarshal v : Option G) with
  | none =>
    rw [hu] at h
    cases h
  | some x => rfl

theorem read_ok (G : Type) [Inhabited G] [Go.Proto G] [Go.LawfulProto G] (m : Map Bytes) (p k : Bytes)
    (h : Decodes G m p) :
    (Go.mustUnmarshal ((m.get (p ++ k)).getD []) : P G) = P.ok (readG G m p k) := by
  unfold readG
  cases hg : m.get (p ++ k) with
  | none => exact mustUnmarshal_ok (by rw [Option.getD_none, Go.LawfulProto.unmarshal_nil]; rfl)
  | some v => exact mustUnmarshal_ok (h k v hg)

theorem conv_read {G V : Type} [Inhabited G] [Go.Proto G] [Go.LawfulProto G] (conv : G → V) (m : Map Bytes) (p k : Bytes) :
    conv (readG G m p k) = (Map.get (table conv m p) k).getD (conv default) := by
  rw [table_get]
  unfold readG
  cases hg : m.get (p ++ k) with
  | none => simp [Go.LawfulProto.unmarshal_nil]
  | some v => simp

/-- what baseapp keeps of a handler's result: the world of a response without error, else nothing (`genStep`, `dStep`) -/
def accepted {ρ : Type} (g : P (Option ρ × Go.Err × World)) : Option World :=
  match g with
  | .ok (some _, none, w') => some w'
  | _ => none

end Panacea.Refine.Aol
