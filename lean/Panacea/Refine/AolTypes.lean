import Panacea.Generated.Code
import Panacea.Model.Validate
import Panacea.Refine.Basic
/-!
`ValidateBasic` and `GetSigners` of the four AOL messages, as translated (regular expressions parsed by Go's own
`regexp/syntax` and emitted as byte classes), return what `Validate.aolValidateBasic` / `Validate.aolSigners` return,
read through `verr` (the registered code of the model's error) and `sres`.
-/
namespace Panacea.Refine.AolTypes
open Panacea Panacea.Gen Panacea.Go

def verr : Outcome Unit → Go.Err
  | .ok _ => none
  | .err "aol/2:too-large" => some "aol/2"
  | .err "aol/3:invalid-topic" => some "aol/3"
  | .err "aol/4:invalid-moniker" => some "aol/4"
  | .err "sdk/7:invalid-address" => some "sdk/7"
  | _ => some "?"

theorem verr_tooLarge : verr (.err "aol/2:too-large") = aoltypes.ErrMessageTooLarge := by rw [verr, aoltypes.ErrMessageTooLarge]
theorem verr_invalidTopic : verr (.err "aol/3:invalid-topic") = aoltypes.ErrInvalidTopic := by rw [verr, aoltypes.ErrInvalidTopic]
theorem verr_invalidMoniker : verr (.err "aol/4:invalid-moniker") = aoltypes.ErrInvalidMoniker := by rw [verr, aoltypes.ErrInvalidMoniker]
theorem verr_invalidAddress : verr (.err "sdk/7:invalid-address") = some "sdk/7" := by rw [verr]

theorem class_eq : Go.inRanges [(45, 46), (48, 57), (65, 90), (95, 95), (97, 122)] = Validate.nameChar := by
  funext b
  unfold Go.inRanges Validate.nameChar
  simp only [List.any_cons, List.any_nil, Bool.or_false, UInt8.le_iff_toNat_le, ← UInt8.toNat_inj, UInt8.toNat_ofNat]
  -- five ranges against six clauses, on `b.toNat` (`omega` is three times as slow to check here)
  grind

-- in the translator's spelling (`pure`, `Go.wrap`): `refine`d against the freshly unfolded function
theorem lenCheck (t : Bytes) (n : Nat) {g : P Go.Err} {m : Outcome Unit} (h : g = P.ok (verr m)) :
    (if decide (Go.len t > (n : Int)) = true then pure (Go.wrap aoltypes.ErrMessageTooLarge) else g) =
      P.ok (verr (if t.length > n then .err "aol/2:too-large" else m)) := by
  have hl : Go.len t > (n : Int) ↔ t.length > n := by
    unfold Go.len
    omega
  by_cases hn : t.length > n
  · rw [if_pos hn, if_pos (decide_eq_true (hl.mpr hn))]
    exact congrArg P.ok verr_tooLarge.symm
  · rw [if_neg hn, if_neg (by rwa [decide_eq_true_eq, hl])]
    exact h

theorem reCheck (b : Bool) (e : Go.Err) (code : String) (he : verr (.err code) = e) :
    (do let t ← (P.ok b : P Bool); if (!t) = true then pure e else pure default) =
      P.ok (verr (if (!b) = true then .err code else .ok ())) := by
  cases b
  · exact congrArg P.ok he.symm
  · rfl

theorem validateTopicName_refines (t : Bytes) :
    aoltypes.validateTopicName t = P.ok (verr (Validate.validateTopicName t)) := by
  unfold aoltypes.validateTopicName Validate.validateTopicName
  refine lenCheck t 70 ?_
  rw [reMatch_plus_cls, class_eq, not_isEmpty]
  exact reCheck _ _ _ verr_invalidTopic

theorem validateMoniker_refines (t : Bytes) :
    aoltypes.validateMoniker t = P.ok (verr (Validate.validateMoniker t)) := by
  unfold aoltypes.validateMoniker Validate.validateMoniker
  refine lenCheck t 70 ?_
  rw [reMatch_star_cls, class_eq]
  exact reCheck _ _ _ verr_invalidMoniker

theorem validateDescription_refines (t : Bytes) :
    aoltypes.validateDescription t = P.ok (verr (Validate.validateDescription t)) :=
  lenCheck t 5000 rfl

theorem validateRecordKey_refines (t : Bytes) :
    aoltypes.validateRecordKey t = P.ok (verr (Validate.validateRecordKey t)) :=
  lenCheck t 70 rfl

theorem validateRecordValue_refines (t : Bytes) :
    aoltypes.validateRecordValue t = P.ok (verr (Validate.validateRecordValue t)) :=
  lenCheck t 5000 rfl

theorem verr_ok : verr (.ok ()) = none := rfl

theorem acc_snd (bech : Go.Bech32) (a : Bytes) :
    (Go.accAddressFromBech32 bech a).2 = verr (Validate.validAddr bech.dec a) ∨
    ((Go.accAddressFromBech32 bech a).2 = some "bech32" ∧ bech.dec a = none) := by
  unfold Go.accAddressFromBech32 Validate.validAddr
  cases bech.dec a with
  | none => exact .inr ⟨rfl, rfl⟩
  | some x => exact .inl rfl

theorem step_ok {x : Outcome Unit} (h : verr x = none) : x = .ok () := by
  unfold verr at h
  split at h
  · rfl
  all_goals cases h

theorem bind_of_err {x : Outcome Unit} {k : Outcome Unit} (h : verr x ≠ none) (hp : ∀ s, x ≠ .panic s) :
    verr (x >>= fun _ => k) = verr x := by
  cases x with
  | ok u => exact absurd rfl h
  | err c => rfl
  | panic s => exact absurd rfl (hp s)

def toModelCreate (m : aoltypes.MsgCreateTopicRequest) : Aol.Msg := .createTopic m.TopicName m.Description m.OwnerAddress
def toModelAddWriter (m : aoltypes.MsgAddWriterRequest) : Aol.Msg :=
  .addWriter m.TopicName m.Moniker m.Description m.WriterAddress m.OwnerAddress
def toModelDeleteWriter (m : aoltypes.MsgDeleteWriterRequest) : Aol.Msg := .deleteWriter m.TopicName m.WriterAddress m.OwnerAddress
def toModelAddRecord (m : aoltypes.MsgAddRecordRequest) : Aol.Msg :=
  .addRecord m.TopicName m.Key m.Value m.WriterAddress m.OwnerAddress m.FeePayerAddress

/-! `ValidateBasic` returns the first error of its checks in order, and so does the model: `verr` is moved inwards
through the model's `>>=`, `P.ok` outwards through the code's conditionals, and the two nests coincide. -/

theorem verr_seq (x k : Outcome Unit) :
    verr (x >>= fun _ => k) = if (verr x).isNone = false then verr x else verr k := by
  cases x with
  | ok u => rfl
  | err c =>
    cases hv : verr (.err c) with
    | none => cases step_ok hv
    | some e => exact hv
  | panic s => rfl

/-- the address check as `go_eval` leaves it, brought to the shape of `verr_seq` -/
theorem acc_check (bech : Go.Bech32) (a : Bytes) (e : Go.Err) :
    (if (Go.accAddressFromBech32 bech a).2.isNone = false then some "sdk/7" else e) =
      if (verr (Validate.validAddr bech.dec a)).isNone = false then verr (Validate.validAddr bech.dec a) else e := by
  rw [acc_ok]
  unfold Validate.validAddr
  cases (bech.dec a).isSome
  · rw [if_neg Bool.false_ne_true, verr_invalidAddress]
    rfl
  · rfl

/-- the last check: the model has no `>>=` after it -/
theorem last_check (o : Go.Err) : (if o.isNone = false then o else default) = o := by
  cases o <;> rfl

section
attribute [local go_eval] verr_seq acc_check last_check ite_ok Bool.not_eq_true'

theorem createTopic_validateBasic_refines (bech : Go.Bech32) (m : aoltypes.MsgCreateTopicRequest) :
    aoltypes.MsgCreateTopicRequest.ValidateBasic bech (some m) =
      P.ok (verr (Validate.aolValidateBasic bech.dec (toModelCreate m))) := by
  unfold aoltypes.MsgCreateTopicRequest.ValidateBasic Validate.aolValidateBasic toModelCreate
  simp only [go_eval, validateTopicName_refines, validateDescription_refines]

theorem addWriter_validateBasic_refines (bech : Go.Bech32) (m : aoltypes.MsgAddWriterRequest) :
    aoltypes.MsgAddWriterRequest.ValidateBasic bech (some m) =
      P.ok (verr (Validate.aolValidateBasic bech.dec (toModelAddWriter m))) := by
  unfold aoltypes.MsgAddWriterRequest.ValidateBasic Validate.aolValidateBasic toModelAddWriter
  simp only [go_eval, validateTopicName_refines, validateMoniker_refines, validateDescription_refines]

theorem deleteWriter_validateBasic_refines (bech : Go.Bech32) (m : aoltypes.MsgDeleteWriterRequest) :
    aoltypes.MsgDeleteWriterRequest.ValidateBasic bech (some m) =
      P.ok (verr (Validate.aolValidateBasic bech.dec (toModelDeleteWriter m))) := by
  unfold aoltypes.MsgDeleteWriterRequest.ValidateBasic Validate.aolValidateBasic toModelDeleteWriter
  simp only [go_eval, validateTopicName_refines]

theorem addRecord_validateBasic_refines (bech : Go.Bech32) (m : aoltypes.MsgAddRecordRequest) :
    aoltypes.MsgAddRecordRequest.ValidateBasic bech (some m) =
      P.ok (verr (Validate.aolValidateBasic bech.dec (toModelAddRecord m))) := by
  unfold aoltypes.MsgAddRecordRequest.ValidateBasic Validate.aolValidateBasic toModelAddRecord
  simp only [go_eval, validateTopicName_refines, validateRecordKey_refines, validateRecordValue_refines,
    apply_ite verr, verr_ok]
  -- no fee payer named: `default : Go.Err` is `none`
  rfl

end

/-- `.err` too is a panic, although `Validate.aolSigners` never answers one -/
def sres : Outcome (List Bytes) → P (List Bytes)
  | .ok l => .ok l
  | .err _ => .panic "err"
  | .panic _ => .panic "err"

theorem signer_refines (bech : Go.Bech32) (a : Bytes) :
    (do let t := Go.accAddressFromBech32 bech a
        if (!t.2.isNone) = true then (Go.P.panic "err" : Go.P Unit)
        pure [t.1]) =
      sres (match bech.dec a with | some x => .ok [x] | none => .panic "GetSigners") := by
  unfold Go.accAddressFromBech32
  cases bech.dec a <;> rfl

theorem createTopic_getSigners_refines (bech : Go.Bech32) (m : aoltypes.MsgCreateTopicRequest) :
    aoltypes.MsgCreateTopicRequest.GetSigners bech (some m) = sres (Validate.aolSigners bech.dec (toModelCreate m)) :=
  signer_refines bech m.OwnerAddress

theorem addWriter_getSigners_refines (bech : Go.Bech32) (m : aoltypes.MsgAddWriterRequest) :
    aoltypes.MsgAddWriterRequest.GetSigners bech (some m) = sres (Validate.aolSigners bech.dec (toModelAddWriter m)) :=
  signer_refines bech m.OwnerAddress

theorem deleteWriter_getSigners_refines (bech : Go.Bech32) (m : aoltypes.MsgDeleteWriterRequest) :
    aoltypes.MsgDeleteWriterRequest.GetSigners bech (some m) = sres (Validate.aolSigners bech.dec (toModelDeleteWriter m)) :=
  signer_refines bech m.OwnerAddress

/-- the add-record signers: `[fee payer, writer]` when a fee payer is named, `[writer]` otherwise (C15, C02) -/
theorem addRecord_getSigners_refines (bech : Go.Bech32) (m : aoltypes.MsgAddRecordRequest) :
    aoltypes.MsgAddRecordRequest.GetSigners bech (some m) = sres (Validate.aolSigners bech.dec (toModelAddRecord m)) := by
  unfold aoltypes.MsgAddRecordRequest.GetSigners Validate.aolSigners toModelAddRecord Go.accAddressFromBech32
  simp only [go_eval]
  cases bech.dec m.WriterAddress with
  | none => rfl
  | some wa =>
    by_cases hf : m.FeePayerAddress = []
    · simp only [hf, ne_eq, not_true_eq_false, go_eval]
      rfl
    · simp only [ne_eq, hf, not_false_eq_true, go_eval]
      cases bech.dec m.FeePayerAddress <;> rfl

end Panacea.Refine.AolTypes
