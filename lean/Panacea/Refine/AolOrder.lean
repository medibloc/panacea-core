import Panacea.Refine.AolGenesis
import Panacea.Properties.C09
/-!
The translator renders each of the four Go maps `aol.InitGenesis` ranges over as the list of its entries in *some*
order; for entries on distinct store keys every order leaves a world that stands for the same state.
-/
namespace Panacea.Refine.AolGenesis
open Panacea Panacea.Gen Panacea.Go Panacea.Refine.Aol

section
variable [Go.Proto aoltypes.Owner] [Go.Proto aoltypes.Topic] [Go.Proto aoltypes.Writer] [Go.Proto aoltypes.Record]
variable [Go.LawfulProto aoltypes.Owner] [Go.LawfulProto aoltypes.Topic] [Go.LawfulProto aoltypes.Writer]
variable [Go.LawfulProto aoltypes.Record]
variable (bech : Go.Bech32)
set_option linter.unusedSectionVars false

/-- **C09 on the translated `x/aol` `InitGenesis`.**  If the four maps visited in one order import to state `s` and the
entries of each map land on distinct store keys, then visited in any other order `InitGenesis` on the empty store
succeeds and the world stands for the same `s`. -/
theorem initGenesis_order_independent
    (lo lo' : List (Bytes × aoltypes.Owner)) (lt lt' : List (Bytes × aoltypes.Topic))
    (lw lw' : List (Bytes × aoltypes.Writer)) (lr lr' : List (Bytes × aoltypes.Record)) (s : Aol.State)
    (po : lo'.Perm lo) (pt : lt'.Perm lt) (pw : lw'.Perm lw) (pr : lr'.Perm lr)
    (no : (lo.map fun e => C09.storeKeyOf (toCodec bech) .owner e.1).Nodup)
    (nt : (lt.map fun e => C09.storeKeyOf (toCodec bech) .topic e.1).Nodup)
    (nw : (lw.map fun e => C09.storeKeyOf (toCodec bech) .writer e.1).Nodup)
    (nr : (lr.map fun e => C09.storeKeyOf (toCodec bech) .record e.1).Nodup)
    (h : Genesis.aolImport (toCodec bech) (toG lo lt lw lr) = .ok s) :
    ∃ w', aol.InitGenesis bech { Owners := ent lo', Topics := ent lt', Writers := ent lw', Records := ent lr' } ({} : World) = P.ok w' ∧
      WF w' ∧ abs w' = s := by
  apply initGenesis_refines
  apply C09.aolImport_perm (toCodec bech) (toG lo lt lw lr) (toG lo' lt' lw' lr') s _ _ _ _ _ _ _ _ h
  · exact po.map _
  · exact pt.map _
  · exact pw.map _
  · exact pr.map _
  · simpa [toG, List.map_map, Function.comp_def] using no
  · simpa [toG, List.map_map, Function.comp_def] using nt
  · simpa [toG, List.map_map, Function.comp_def] using nw
  · simpa [toG, List.map_map, Function.comp_def] using nr

end
end Panacea.Refine.AolGenesis
