import Panacea.Refine.DidKeeper
import Panacea.Properties.C08
import Panacea.Properties.C09
/-!
# Genesis import and export of the translated `x/did` module

`did.InitGenesis` ranges over a Go map, which the translator renders as the list of its entries in *some* order
(`Go.GoMap`): the import theorem is stated for every list, and `C09.genesis_import_order_independent` says the order
does not matter for distinct keys.  `InitGenesis` dereferences every entry (a `null` entry panics, in the translation
too), so the entries are taken non-nil here.
-/
namespace Panacea.Refine.DidKeeper
open Panacea Panacea.Gen Panacea.Go Panacea.Refine.DidTypes
open Panacea.Refine.Aol (table table_sorted store_setStore)
section
variable [Go.Proto didtypes.DIDDocument]
variable [Go.Proto didtypes.DIDDocumentWithSeq] [Go.LawfulProto didtypes.DIDDocumentWithSeq]
set_option linter.unusedSectionVars false

/-- a genesis map of non-nil entries, in the order `l` -/
def entriesOf (l : List (Bytes × didtypes.DIDDocumentWithSeq)) : Go.GoMap (Option didtypes.DIDDocumentWithSeq) :=
  l.map fun e => (e.1, some e.2)

/-- what `SetDIDDocument e.1 e.2` does to the world -/
def putD (w : World) (e : Bytes × didtypes.DIDDocumentWithSeq) : World :=
  w.setStore "did" ((w.store "did").set ([0] ++ e.1) (Go.Proto.marshal e.2))

theorem initGenesis_run (l : List (Bytes × didtypes.DIDDocumentWithSeq)) :
    ∀ w : World, did.InitGenesis { Documents := entriesOf l } w = P.ok (l.foldl putD w) := by
  unfold did.InitGenesis entriesOf
  induction l with
  | nil => intro w; rfl
  | cons e l ih =>
    intro w
    have := ih (putD w e)
    simp only [List.map_cons, List.forIn_cons, go_eval, setDoc_run, List.foldl_cons] at this ⊢
    exact this

/-- **import**, in the order the map happened to be visited -/
theorem initGenesis_abs (l : List (Bytes × didtypes.DIDDocumentWithSeq)) :
    ∀ w : World, (w.store "did").Sorted →
      absD (l.foldl putD w) = l.foldl (fun s e => s.set e.1 (toDWS e.2)) (absD w) ∧ ((l.foldl putD w).store "did").Sorted := by
  intro w hs
  have := Go.foldl_refines absD (fun w => (w.store "did").Sorted) putD
    (fun (s : Did.State) (e : Bytes × Did.DocWithSeq) => s.set e.1 e.2)
    (fun e => (e.1, toDWS e.2)) (fun w e hs => ⟨abs_set w hs e.1 e.2, ?_⟩) l w hs
  · rwa [List.foldl_map] at this
  · unfold putD
    rw [store_setStore]
    exact Map.sorted_set hs

theorem initGenesis_empty_abs (l : List (Bytes × didtypes.DIDDocumentWithSeq)) :
    absD (l.foldl putD ({} : World)) = Genesis.didImport (l.map fun e => (e.1, toDWS e.2)) := by
  rw [(initGenesis_abs l {} wfd_empty.sorted).1, Genesis.didImport, List.foldl_map]
  rfl

theorem initGenesis_empty (l : List (Bytes × didtypes.DIDDocumentWithSeq)) :
    ∃ w', did.InitGenesis { Documents := entriesOf l } ({} : World) = P.ok w' ∧
      absD w' = Genesis.didImport (l.map fun e => (e.1, toDWS e.2)) :=
  ⟨_, initGenesis_run l {}, initGenesis_empty_abs l⟩

theorem prefixView_sorted {V : Type} (m : Map V) (hs : m.Sorted) (p : Bytes) : Map.Sorted (m.prefixView p) :=
  Map.prefixView_sorted hs p

theorem listDIDs_run (w : World) :
    didkeeper.Keeper.ListDIDs w = P.ok (((w.store "did").prefixView [0]).map (·.1), w) := by
  unfold didkeeper.Keeper.ListDIDs
  simp only [make0, go_eval]
  rw [Go.forIn_appendAll (·) _ (fun kv : Bytes × Bytes => [kv.1]) _ (fun _ _ _ => rfl) [], ← List.map_eq_flatMap]
  simp only [go_eval, List.nil_append, Go.Store.iterate, Go.prefixStore, Go.kvStore, didtypes.DIDKeyPrefix,
    List.append_nil, List.map_map, Function.comp_def]

/-- the entries `ExportGenesis` writes into the genesis map: every stored DID with what `GetDIDDocument` returns -/
def exportEntries (w : World) : List (Bytes × didtypes.DIDDocumentWithSeq) :=
  ((w.store "did").prefixView [0]).map fun e => (e.1, readD w e.1)

theorem exportGenesis_run (w : World) (hwf : WFD w) :
    did.ExportGenesis w = P.ok (some { Documents := entriesOf (exportEntries w) }, w) := by
  unfold did.ExportGenesis
  simp only [listDIDs_run, go_eval]
  -- the loop: the world stays `w`, the map gets `did ↦ GetDIDDocument did`
  rw [Go.forIn_fold _ (fun s did => (w, Go.mapSet s.2 did (some (readD w did)))) (fun s => s.1 = w) _ ?_ (w, []) rfl]
  · rw [List.foldl_hom (fun m => (w, m)) (g₁ := fun m did => Go.mapSet m did (some (readD w did))) (fun _ _ => rfl),
      fold_mapSet (fun did => (did, some (readD w did))) _ ?_ [] (fun _ _ h => nomatch h)]
    · simp only [go_eval, List.nil_append, entriesOf, exportEntries, List.map_map, Function.comp_def]
    · simpa only [List.map_map, Function.comp_def, Map.keys] using Map.sorted_nodup (prefixView_sorted _ hwf.sorted [0])
  · rintro did - ⟨sw, sm⟩ rfl
    simp only [didtypes.GenesisDIDDocumentKey.Marshal, go_eval, getDoc_run sw did hwf]
    exact ⟨trivial, trivial⟩

theorem readD_of_mem {w : World} (hs : (w.store "did").Sorted) {k v : Bytes} (h : ([0] ++ k, v) ∈ w.store "did") :
    readD w k = (Go.Proto.unmarshal v : Option didtypes.DIDDocumentWithSeq).getD default := by
  unfold readD
  rw [Map.get_of_mem_sorted hs h]

theorem exportEntries_abs (w : World) (hwf : WFD w) :
    (exportEntries w).map (fun e => (e.1, toDWS e.2)) = absD w := by
  unfold exportEntries absD
  rw [Panacea.Refine.AolExport.table_eq, List.map_map]
  apply List.map_congr_left
  intro e he
  simp only [Function.comp_apply, readD_of_mem hwf.sorted (Map.mem_prefixView.mp he)]

theorem absD_sorted (w : World) (hwf : WFD w) : Map.Sorted (absD w) :=
  table_sorted toDWS hwf.sorted

theorem import_export_abs (w : World) (hwf : WFD w) : absD ((exportEntries w).foldl putD ({} : World)) = absD w := by
  rw [initGenesis_empty_abs, exportEntries_abs w hwf]
  exact Panacea.C08.did_import_export (absD w) (absD_sorted w hwf)

/-- every entry written is one that `w` held -/
theorem wfd_imported (cf : CodecFacts) (w : World) (hwf : WFD w) : WFD ((exportEntries w).foldl putD ({} : World)) := by
  refine List.foldlRecOn (motive := WFD) _ putD wfd_empty fun w' h e he => wfd_set w' h cf e.1 e.2 fun d hd => ?_
  obtain ⟨e0, _, rfl⟩ := List.mem_map.mp he
  exact read_noNil w e0.1 hwf d hd

/-- **C08 for x/did on the translated code**: importing what `ExportGenesis` wrote, into an empty store, gives a world
that stands for the same registry — every document, every sequence, every tombstone.  That world is well-formed too
(`wfd_imported`; it needs `CodecFacts`, which is why the statement does not carry it). -/
theorem genesis_roundtrip (w : World) (hwf : WFD w) :
    ∃ g w', did.ExportGenesis w = P.ok (some g, w) ∧ did.InitGenesis g ({} : World) = P.ok w' ∧ absD w' = absD w :=
  ⟨_, _, exportGenesis_run w hwf, initGenesis_run _ _, import_export_abs w hwf⟩

/-- **C09 for x/did's genesis import on the translated code**: `InitGenesis` ranges over a Go map, so the order of
visits is whatever the runtime picks; for entries with distinct keys (which every Go map has; `Go.GoMap`, a list, does
not say so) every order `l'` of the same entries leaves every identifier reading the entry it was given. -/
theorem initGenesis_order_independent (l l' : List (Bytes × didtypes.DIDDocumentWithSeq))
    (hd : (l.map (·.1)).Nodup) (hp : l'.Perm l) :
    ∃ w', did.InitGenesis { Documents := entriesOf l' } ({} : World) = P.ok w' ∧
      ∀ k d, (k, d) ∈ l → Map.get (absD w') k = some (toDWS d) := by
  obtain ⟨w', hrun, habs⟩ := initGenesis_empty l'
  refine ⟨w', hrun, ?_⟩
  intro k d hm
  rw [habs]
  unfold Genesis.didImport
  apply Panacea.C09.genesis_import_order_independent (l.map fun e => (e.1, toDWS e.2))
  · simpa [List.map_map, Function.comp_def] using hd
  · exact List.mem_map.mpr ⟨(k, d), hm, rfl⟩
  · exact hp.map _

end
end Panacea.Refine.DidKeeper
