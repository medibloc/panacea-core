import Panacea.Refine.CompKey
import Panacea.Refine.Store
import Panacea.Refine.Basic
import Panacea.Properties.C18
/-!
# Refinement: the string form of composite keys (genesis files) on the translated code

`EncodeToString` / `DecodeFromString` are the model's `joinSlash` / `splitSlash`; for each of the four AOL key types
`FromStrings` is evaluated once, on every input, against `CompKey.fromStrings` (same components, or an error and the
receiver unchanged), and its accepting and rejecting halves are read off.  So `C18.string_roundtrip_admitted` holds of
the translated functions: `roundtrip_*`.
-/
namespace Panacea.Refine.CompKeyString
open Panacea Panacea.Gen Panacea.Go Panacea.Refine.Aol

theorem join_loop (sep : Bytes) (body : Int × Bytes → Bytes → P (ForInStep Bytes))
    (hb : ∀ (i : Int) (v r : Bytes), body (i, v) r = P.ok (.yield ((if i > 0 then r ++ sep else r) ++ v)))
    (xs : List Bytes) (s : Nat) (b : Bytes) (hs : 0 < s) :
    forIn (m := P) (enumFrom s xs) b body = P.ok (b ++ (xs.map fun y => sep ++ y).flatten) := by
  induction xs generalizing s b with
  | nil => simp [enumFrom]
  | cons x xs ih =>
    simp only [enumFrom, List.forIn_cons, hb, if_pos (show (s : Int) > 0 by omega), P.ok_bind, ih (s + 1) _ (by omega)]
    simp

/-- `[47]` is the separator `/`. -/
theorem encodeToString_run {κ : Type} (I : compkey.CompositeKey κ) (key : κ) (ss : List Bytes)
    (h : I.Strings key = P.ok ss) :
    compkey.EncodeToString I key [47] = P.ok (CompKey.joinSlash ss) := by
  unfold compkey.EncodeToString
  simp only [h, P.ok_bind, enum_eq]
  generalize hbody : (fun (kv : Int × Bytes) (__s : Bytes) => _) = body
  have hb : ∀ (i : Int) (v r : Bytes), body (i, v) r = P.ok (.yield ((if i > 0 then r ++ [47] else r) ++ v)) := by
    intro i v r
    by_cases hi : i > 0 <;> simp [← hbody, hi]
  cases ss with
  | nil => rfl
  | cons x xs =>
    simp only [enumFrom, List.forIn_cons, hb, P.ok_bind, join_loop [47] body hb xs _ _ (Nat.succ_pos 0), CompKey.joinSlash_cons]
    rfl

/-- `[47]` is the separator `/`. -/
theorem decodeFromString_run {κ : Type} (I : compkey.CompositeKey κ) (s : Bytes) (out : κ) :
    compkey.DecodeFromString I s [47] out = I.FromStrings out (CompKey.splitSlash s) := by
  unfold compkey.DecodeFromString
  simp only [Go.splitSep, P.ok_bind, splitByte_eq]
  cases I.FromStrings out (CompKey.splitSlash s) <;> rfl

theorem idx0 {α} (a : α) (l : List α) : Go.idx (a :: l) (0 : Int) = P.ok a := rfl
theorem idx1 {α} (a b : α) (l : List α) : Go.idx (a :: b :: l) (1 : Int) = P.ok b := rfl
theorem idx2 {α} (a b c : α) (l : List α) : Go.idx (a :: b :: c :: l) (2 : Int) = P.ok c := rfl
attribute [go_eval] idx0 idx1 idx2

section kinds
variable (bech : Go.Bech32)

/-- The key struct `FromByteSlices` / `FromStrings` build from a component list (likewise `topicOf`, `writerOf`, `recordOf`);
`default` on a wrong length is never reached; `recordOf` reads the offset with `(fromBe64 n).getD 0`. -/
def ownerOf : List Bytes → aoltypes.OwnerCompositeKey
  | [a] => { OwnerAddress := a }
  | _ => default

theorem owner_strings (k : aoltypes.OwnerCompositeKey) :
    (aoltypes.OwnerCompositeKey.asCompositeKey bech).Strings (some k) =
      P.ok (CompKey.strings (toCodec bech) .owner [k.OwnerAddress]) :=
  rfl

theorem owner_fromStrings (k0 : aoltypes.OwnerCompositeKey) (ss : List Bytes) :
    ∃ e, (aoltypes.OwnerCompositeKey.asCompositeKey bech).FromStrings (some k0) ss =
      P.ok (match CompKey.fromStrings (toCodec bech) .owner ss with
        | some comps => (none, some (ownerOf comps))
        | none => (some e, some k0)) := by
  match ss with
  | [] | _ :: _ :: _ => exact ⟨_, rfl⟩
  | [o] =>
    refine ⟨"fmt:invalid account address string: %w", ?_⟩
    simp only [aoltypes.OwnerCompositeKey.asCompositeKey, aoltypes.OwnerCompositeKey.FromStrings, go_eval, Go.len,
      List.length_cons, List.length_nil, Go.acc_ok, acc_fst, CompKey.fromStrings, toCodec]
    cases bech.dec o <;> rfl

theorem owner_fromStrings_some (k0 : aoltypes.OwnerCompositeKey) (ss comps : List Bytes)
    (h : CompKey.fromStrings (toCodec bech) .owner ss = some comps) :
    (aoltypes.OwnerCompositeKey.asCompositeKey bech).FromStrings (some k0) ss = P.ok (none, some (ownerOf comps)) := by
  obtain ⟨e, he⟩ := owner_fromStrings bech k0 ss
  rw [he, h]

theorem owner_fromStrings_none (k0 : aoltypes.OwnerCompositeKey) (ss : List Bytes)
    (h : CompKey.fromStrings (toCodec bech) .owner ss = none) :
    ∃ e, (aoltypes.OwnerCompositeKey.asCompositeKey bech).FromStrings (some k0) ss = P.ok (some e, some k0) := by
  obtain ⟨e, he⟩ := owner_fromStrings bech k0 ss
  exact ⟨e, by rw [he, h]⟩

def topicOf : List Bytes → aoltypes.TopicCompositeKey
  | [a, t] => { OwnerAddress := a, TopicName := t }
  | _ => default

theorem topic_strings (k : aoltypes.TopicCompositeKey) :
    (aoltypes.TopicCompositeKey.asCompositeKey bech).Strings (some k) =
      P.ok (CompKey.strings (toCodec bech) .topic [k.OwnerAddress, k.TopicName]) :=
  rfl

theorem topic_fromStrings (k0 : aoltypes.TopicCompositeKey) (ss : List Bytes) :
    ∃ e, (aoltypes.TopicCompositeKey.asCompositeKey bech).FromStrings (some k0) ss =
      P.ok (match CompKey.fromStrings (toCodec bech) .topic ss with
        | some comps => (none, some (topicOf comps))
        | none => (some e, some k0)) := by
  match ss with
  | [] | [_] | _ :: _ :: _ :: _ => exact ⟨_, rfl⟩
  | [o, t] =>
    refine ⟨"fmt:invalid account address string: %w", ?_⟩
    simp only [aoltypes.TopicCompositeKey.asCompositeKey, aoltypes.TopicCompositeKey.FromStrings, go_eval, Go.len,
      List.length_cons, List.length_nil, Go.acc_ok, acc_fst, CompKey.fromStrings, toCodec]
    cases bech.dec o <;> rfl

theorem topic_fromStrings_some (k0 : aoltypes.TopicCompositeKey) (ss comps : List Bytes)
    (h : CompKey.fromStrings (toCodec bech) .topic ss = some comps) :
    (aoltypes.TopicCompositeKey.asCompositeKey bech).FromStrings (some k0) ss = P.ok (none, some (topicOf comps)) := by
  obtain ⟨e, he⟩ := topic_fromStrings bech k0 ss
  rw [he, h]

theorem topic_fromStrings_none (k0 : aoltypes.TopicCompositeKey) (ss : List Bytes)
    (h : CompKey.fromStrings (toCodec bech) .topic ss = none) :
    ∃ e, (aoltypes.TopicCompositeKey.asCompositeKey bech).FromStrings (some k0) ss = P.ok (some e, some k0) := by
  obtain ⟨e, he⟩ := topic_fromStrings bech k0 ss
  exact ⟨e, by rw [he, h]⟩

def writerOf : List Bytes → aoltypes.WriterCompositeKey
  | [a, t, w] => { OwnerAddress := a, TopicName := t, WriterAddress := w }
  | _ => default

theorem writer_strings (k : aoltypes.WriterCompositeKey) :
    (aoltypes.WriterCompositeKey.asCompositeKey bech).Strings (some k) =
      P.ok (CompKey.strings (toCodec bech) .writer [k.OwnerAddress, k.TopicName, k.WriterAddress]) :=
  rfl

theorem writer_fromStrings (k0 : aoltypes.WriterCompositeKey) (ss : List Bytes) :
    ∃ e, (aoltypes.WriterCompositeKey.asCompositeKey bech).FromStrings (some k0) ss =
      P.ok (match CompKey.fromStrings (toCodec bech) .writer ss with
        | some comps => (none, some (writerOf comps))
        | none => (some e, some k0)) := by
  match ss with
  | [] | [_] | [_, _] | _ :: _ :: _ :: _ :: _ => exact ⟨_, rfl⟩
  | [o, t, w] =>
    refine ⟨"fmt:invalid account address string: %w", ?_⟩
    simp only [aoltypes.WriterCompositeKey.asCompositeKey, aoltypes.WriterCompositeKey.FromStrings, go_eval, Go.len,
      List.length_cons, List.length_nil, Go.acc_ok, acc_fst, CompKey.fromStrings, toCodec]
    cases bech.dec o with
    | none => rfl
    | some a => cases bech.dec w <;> rfl

theorem writer_fromStrings_some (k0 : aoltypes.WriterCompositeKey) (ss comps : List Bytes)
    (h : CompKey.fromStrings (toCodec bech) .writer ss = some comps) :
    (aoltypes.WriterCompositeKey.asCompositeKey bech).FromStrings (some k0) ss = P.ok (none, some (writerOf comps)) := by
  obtain ⟨e, he⟩ := writer_fromStrings bech k0 ss
  rw [he, h]

theorem writer_fromStrings_none (k0 : aoltypes.WriterCompositeKey) (ss : List Bytes)
    (h : CompKey.fromStrings (toCodec bech) .writer ss = none) :
    ∃ e, (aoltypes.WriterCompositeKey.asCompositeKey bech).FromStrings (some k0) ss = P.ok (some e, some k0) := by
  obtain ⟨e, he⟩ := writer_fromStrings bech k0 ss
  exact ⟨e, by rw [he, h]⟩

def recordOf : List Bytes → aoltypes.RecordCompositeKey
  | [a, t, n] => { OwnerAddress := a, TopicName := t, Offset := (fromBe64 n).getD 0 }
  | _ => default

omit bech in
theorem recordOf_be64 (a t : Bytes) {n : Nat} (h : n < 18446744073709551616) :
    recordOf [a, t, be64 n] = { OwnerAddress := a, TopicName := t, Offset := n } := by
  simp only [recordOf, Panacea.fromBe64_be64 n h, Option.getD_some]

/-- `hk`: the generated `Offset` field is a `Nat` standing for a Go `uint64`, so it holds of every value the program has. -/
theorem record_strings (k : aoltypes.RecordCompositeKey) (hk : k.Offset < 2 ^ 64) :
    (aoltypes.RecordCompositeKey.asCompositeKey bech).Strings (some k) =
      P.ok (CompKey.strings (toCodec bech) .record [k.OwnerAddress, k.TopicName, be64 k.Offset]) := by
  rw [CompKey.strings, Panacea.fromBe64_be64 k.Offset hk]
  rfl

theorem record_fromStrings (k0 : aoltypes.RecordCompositeKey) (ss : List Bytes) :
    ∃ e, (aoltypes.RecordCompositeKey.asCompositeKey bech).FromStrings (some k0) ss =
      P.ok (match CompKey.fromStrings (toCodec bech) .record ss with
        | some comps => (none, some (recordOf comps))
        | none => (some e, some k0)) := by
  match ss with
  | [] | [_] | [_, _] | _ :: _ :: _ :: _ :: _ => exact ⟨_, rfl⟩
  | [o, t, n] =>
    refine ⟨if (bech.dec o).isSome then "fmt:invalid offset string: %w" else "fmt:invalid account address string: %w", ?_⟩
    simp only [aoltypes.RecordCompositeKey.asCompositeKey, aoltypes.RecordCompositeKey.FromStrings, go_eval, Go.len,
      List.length_cons, List.length_nil, Go.acc_ok, acc_fst, parse_ok, parse_fst, CompKey.fromStrings,
      toCodec]
    cases bech.dec o with
    | none => rfl
    | some a =>
      cases hn : CompKey.parseUint64 n with
      | none => rfl
      | some off =>
        simp only [go_eval, Option.getD_some, recordOf_be64 a t (CompKey.parseUint64_lt hn)]
        rfl

theorem record_fromStrings_some (k0 : aoltypes.RecordCompositeKey) (ss comps : List Bytes)
    (h : CompKey.fromStrings (toCodec bech) .record ss = some comps) :
    (aoltypes.RecordCompositeKey.asCompositeKey bech).FromStrings (some k0) ss = P.ok (none, some (recordOf comps)) := by
  obtain ⟨e, he⟩ := record_fromStrings bech k0 ss
  rw [he, h]

theorem record_fromStrings_none (k0 : aoltypes.RecordCompositeKey) (ss : List Bytes)
    (h : CompKey.fromStrings (toCodec bech) .record ss = none) :
    ∃ e, (aoltypes.RecordCompositeKey.asCompositeKey bech).FromStrings (some k0) ss = P.ok (some e, some k0) := by
  obtain ⟨e, he⟩ := record_fromStrings bech k0 ss
  exact ⟨e, by rw [he, h]⟩

theorem owner_shape (ss comps : List Bytes) (h : CompKey.fromStrings (toCodec bech) .owner ss = some comps) :
    ∃ a, comps = [a] := by
  match ss, h with
  | [o], h =>
    simp only [CompKey.fromStrings, Option.map_eq_some_iff] at h
    obtain ⟨a, _, rfl⟩ := h
    exact ⟨a, rfl⟩

theorem topic_shape (ss comps : List Bytes) (h : CompKey.fromStrings (toCodec bech) .topic ss = some comps) :
    ∃ a t, comps = [a, t] := by
  match ss, h with
  | [o, t], h =>
    simp only [CompKey.fromStrings, Option.map_eq_some_iff] at h
    obtain ⟨a, _, rfl⟩ := h
    exact ⟨a, t, rfl⟩

theorem writer_shape (ss comps : List Bytes) (h : CompKey.fromStrings (toCodec bech) .writer ss = some comps) :
    ∃ a t x, comps = [a, t, x] := by
  match ss, h with
  | [o, t, w], h =>
    simp only [CompKey.fromStrings] at h
    split at h
    · exact ⟨_, _, _, (Option.some.inj h).symm⟩
    · cases h

theorem record_shape (ss comps : List Bytes) (h : CompKey.fromStrings (toCodec bech) .record ss = some comps) :
    ∃ a t n, n < 2 ^ 64 ∧ comps = [a, t, be64 n] := by
  match ss, h with
  | [o, t, n], h =>
    simp only [CompKey.fromStrings] at h
    split at h
    next hn => exact ⟨_, _, _, CompKey.parseUint64_lt hn, (Option.some.inj h).symm⟩
    · cases h

theorem roundtrip_generic {κ : Type} {I : compkey.CompositeKey κ} {key out res : κ} {c : CompKey.AddrCodec}
    (hc : c.Lawful) {kind : CompKey.Kind} {comps : List Bytes} (hadm : C18.Admitted kind comps)
    (hS : I.Strings key = P.ok (CompKey.strings c kind comps))
    (hF : ∀ ss, CompKey.fromStrings c kind ss = some comps → I.FromStrings out ss = P.ok (none, res)) :
    ∃ s, compkey.EncodeToString I key [47] = P.ok s ∧ compkey.DecodeFromString I s [47] out = P.ok (none, res) := by
  refine ⟨CompKey.encodeToString c kind comps, encodeToString_run I key _ hS, ?_⟩
  rw [decodeFromString_run]
  exact hF _ (C18.string_roundtrip_admitted c hc kind comps hadm)

/-- **C18, string form, owner keys**: what `EncodeToString` writes for an admitted key, `DecodeFromString` reads back
as that key (whatever the receiving struct held before), on the code as translated from `/repo`. -/
theorem roundtrip_owner (hc : (toCodec bech).Lawful) (k k0 : aoltypes.OwnerCompositeKey)
    (hadm : C18.Admitted .owner [k.OwnerAddress]) :
    ∃ s, compkey.EncodeToString (aoltypes.OwnerCompositeKey.asCompositeKey bech) (some k) [47] = P.ok s ∧
      compkey.DecodeFromString (aoltypes.OwnerCompositeKey.asCompositeKey bech) s [47] (some k0) = P.ok (none, some k) :=
  roundtrip_generic hc hadm (owner_strings bech k)
    (fun ss h => owner_fromStrings_some bech k0 ss _ h)

theorem roundtrip_topic (hc : (toCodec bech).Lawful) (k k0 : aoltypes.TopicCompositeKey)
    (hadm : C18.Admitted .topic [k.OwnerAddress, k.TopicName]) :
    ∃ s, compkey.EncodeToString (aoltypes.TopicCompositeKey.asCompositeKey bech) (some k) [47] = P.ok s ∧
      compkey.DecodeFromString (aoltypes.TopicCompositeKey.asCompositeKey bech) s [47] (some k0) = P.ok (none, some k) :=
  roundtrip_generic hc hadm (topic_strings bech k)
    (fun ss h => topic_fromStrings_some bech k0 ss _ h)

theorem roundtrip_writer (hc : (toCodec bech).Lawful) (k k0 : aoltypes.WriterCompositeKey)
    (hadm : C18.Admitted .writer [k.OwnerAddress, k.TopicName, k.WriterAddress]) :
    ∃ s, compkey.EncodeToString (aoltypes.WriterCompositeKey.asCompositeKey bech) (some k) [47] = P.ok s ∧
      compkey.DecodeFromString (aoltypes.WriterCompositeKey.asCompositeKey bech) s [47] (some k0) = P.ok (none, some k) :=
  roundtrip_generic hc hadm (writer_strings bech k)
    (fun ss h => writer_fromStrings_some bech k0 ss _ h)

theorem roundtrip_record (hc : (toCodec bech).Lawful) (k k0 : aoltypes.RecordCompositeKey) (hk : k.Offset < 2 ^ 64)
    (hadm : C18.Admitted .record [k.OwnerAddress, k.TopicName, be64 k.Offset]) :
    ∃ s, compkey.EncodeToString (aoltypes.RecordCompositeKey.asCompositeKey bech) (some k) [47] = P.ok s ∧
      compkey.DecodeFromString (aoltypes.RecordCompositeKey.asCompositeKey bech) s [47] (some k0) = P.ok (none, some k) := by
  have hr : recordOf [k.OwnerAddress, k.TopicName, be64 k.Offset] = k := recordOf_be64 _ _ hk
  have := roundtrip_generic hc hadm (record_strings bech k hk) (fun ss h => record_fromStrings_some bech k0 ss _ h)
  rwa [hr] at this

/-- the premises are satisfiable: a 20-byte owner, a topic name without `/`, offset 7 -/
example : C18.Admitted .record [List.replicate 20 1, [116], be64 7] := by
  refine ⟨by decide, by decide, 7, by decide, rfl⟩

end kinds
end Panacea.Refine.CompKeyString
