import Panacea.Refine.DidGenesis
/-!
# The DID genesis round trip for every reachable world

Well-formedness (`WFD`), which `genesis_roundtrip` asks for, is an invariant of the translated message server: the round
trip holds for every world reached from the empty store by DID messages whose document has no nil entries (what protobuf
decoding produces).  Only well-formedness is carried along a history; agreement with `Did.run` is not stated.
-/
namespace Panacea.Refine.DidKeeper
open Panacea Panacea.Gen Panacea.Go Panacea.Refine.DidTypes
open Panacea.Refine.Aol (accepted)

section
variable [Go.Proto didtypes.DIDDocument]
variable [Go.Proto didtypes.DIDDocumentWithSeq] [Go.LawfulProto didtypes.DIDDocumentWithSeq]
set_option linter.unusedSectionVars false

inductive DMsg where
  | create (m : didtypes.MsgCreateDIDRequest)
  | update (m : didtypes.MsgUpdateDIDRequest)
  | deactivate (m : didtypes.MsgDeactivateDIDRequest)

def DMsg.WellFormed : DMsg → Prop
  | .create m => ∃ d, m.Document = some d ∧ NoNil d
  | .update m => ∃ d, m.Document = some d ∧ NoNil d
  | .deactivate _ => True

/-- one message delivered by baseapp: the handler's writes are kept only when it returns a response and no error -/
def dStep (crypto : Go.SigScheme) (w : World) (op : DMsg) : World :=
  (match op with
    | .create m => accepted (didkeeper.msgServer.CreateDID crypto (some m) w)
    | .update m => accepted (didkeeper.msgServer.UpdateDID crypto (some m) w)
    | .deactivate m => accepted (didkeeper.msgServer.DeactivateDID crypto (some m) w)).getD w

def dRun (crypto : Go.SigScheme) (w : World) (ops : List DMsg) : World := ops.foldl (dStep crypto) w

theorem simD_wfd {ρ : Type} {w : World} {g : P (Option ρ × Go.Err × World)} {m : Outcome Did.State} (hwf : WFD w)
    (h : SimD w g m) : WFD ((accepted g).getD w) := by
  unfold SimD at h
  cases m with
  | ok s' =>
    obtain ⟨v, w', hg, _, hw⟩ := h
    subst hg
    exact hw
  | err c =>
    simp only at h
    subst h
    exact hwf
  | panic s =>
    obtain ⟨s', hg⟩ := h
    subst hg
    exact hwf

theorem dStep_wfd (crypto : Go.SigScheme) (cf : CodecFacts) (w : World) (hwf : WFD w) (op : DMsg) (hop : op.WellFormed) :
    WFD (dStep crypto w op) := by
  unfold dStep
  cases op with
  | create m =>
    obtain ⟨d, hd, hn⟩ := hop
    exact simD_wfd hwf (createDID_refines crypto cf w hwf m d hd hn)
  | update m =>
    obtain ⟨d, hd, hn⟩ := hop
    exact simD_wfd hwf (updateDID_refines crypto cf w hwf m d hd hn)
  | deactivate m => exact simD_wfd hwf (deactivateDID_refines crypto cf w hwf m)

theorem dRun_wfd (crypto : Go.SigScheme) (cf : CodecFacts) (ops : List DMsg) (hops : ∀ op ∈ ops, op.WellFormed) :
    ∀ w, WFD w → WFD (dRun crypto w ops) := fun _ h =>
  List.foldlRecOn (motive := WFD) ops (dStep crypto) h fun w h op hop => dStep_wfd crypto cf w h op (hops op hop)

/-- **C08 for x/did, for every reachable world**: the registry reached from the empty store by any list of well-formed
DID messages is exported, and the import of that export into an empty store stands for the same registry — every
document, sequence and tombstone. -/
theorem reachable_genesis_roundtrip (crypto : Go.SigScheme) (cf : CodecFacts) (ops : List DMsg)
    (hops : ∀ op ∈ ops, op.WellFormed) :
    ∃ g w', did.ExportGenesis (dRun crypto ({} : World) ops) = P.ok (some g, dRun crypto ({} : World) ops) ∧
      did.InitGenesis g ({} : World) = P.ok w' ∧ absD w' = absD (dRun crypto ({} : World) ops) :=
  genesis_roundtrip _ (dRun_wfd crypto cf ops hops _ wfd_empty)

end
end Panacea.Refine.DidKeeper
