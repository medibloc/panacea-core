import Panacea.Generated.Code
import Panacea.Model.Did
import Panacea.Lemmas.Did
import Panacea.Refine.Basic
/-!
# Refinement: the translated document validation of `x/did/types`

The translated validators of `/repo/x/did/types/did.go` and `messages_did.go` (regular expressions parsed by Go's own
`regexp/syntax`, the protobuf `oneof` of a verification relationship as an inductive type) compute the model's
validators, for every document whose repeated message fields hold no nil element (what protobuf decoding produces).
-/
namespace Panacea.Refine.DidTypes
open Panacea Panacea.Gen Panacea.Go

/-- the class the translator reads off `[1-9A-HJ-NP-Za-km-z]` -/
abbrev b58Ranges : List (Nat × Nat) := [(49, 57), (65, 72), (74, 78), (80, 90), (97, 107), (109, 122)]

theorem b58_class : Go.inRanges b58Ranges = Did.isB58 := by
  funext b
  have members : classBytes b58Ranges = Did.b58Alphabet := rfl
  rw [inRanges_eq_contains _ (by decide), members, Bool.eq_iff_iff, List.contains_iff_mem]
  exact List.isSome_idxOf?.symm

/-- `\s` of Go's `regexp` (the pattern is `^\S+$`) -/
abbrev spaceRanges : List (Nat × Nat) := [(9, 10), (12, 13), (32, 32)]

theorem space_class : Go.inRanges spaceRanges = Did.isSpace := by
  funext b
  have members : classBytes spaceRanges = [9, 10, 12, 13, 32] := rfl
  rw [inRanges_eq_contains _ (by decide), members]
  simp only [List.contains_cons, List.contains_nil, Bool.or_false, Did.isSpace, Bool.or_assoc]
  rfl

def toVM (x : didtypes.VerificationMethod) : Did.VM :=
  { id := x.Id, type := x.«Type», controller := x.Controller, pubKeyB58 := x.PublicKeyBase58 }

/-- an unset `oneof`, or a wrapper holding a nil pointer, behaves as a reference to the empty id (the generated
getters return `""` / `nil`) -/
def toRel (r : didtypes.VerificationRelationship) : Did.Rel :=
  match r.Content with
  | .VerificationMethodId v => .ref v
  | .VerificationMethod (some vm) => .dedicated (toVM vm)
  | .VerificationMethod none => .ref []
  | .none => .ref []

def toService (x : didtypes.Service) : Did.Service := { id := x.Id, type := x.«Type», endpoint := x.ServiceEndpoint }

def toDoc (d : didtypes.DIDDocument) : Did.Doc :=
  { contexts := d.Contexts, id := d.Id, controller := d.Controller,
    vms := (d.VerificationMethods.filterMap id).map toVM,
    auths := d.Authentications.map toRel, asserts := d.AssertionMethods.map toRel,
    keyAgrs := d.KeyAgreements.map toRel, capInvs := d.CapabilityInvocations.map toRel,
    capDels := d.CapabilityDelegations.map toRel,
    services := (d.Services.filterMap id).map toService }

/-- what protobuf decoding guarantees -/
def NoNil (d : didtypes.DIDDocument) : Prop :=
  (∀ x ∈ d.VerificationMethods, x.isSome = true) ∧ (∀ x ∈ d.Services, x.isSome = true)

theorem validateDID_refines (s : Bytes) : didtypes.ValidateDID s = P.ok (Did.validateDID s) := by
  -- `^ lit C{32,44} $`: prefix, length window, class
  simp only [didtypes.ValidateDID, Did.validateDID, Did.didPrefix, b58_class, go_eval, List.length_drop, Bool.and_assoc]

theorem validateVMID_refines (id did : Bytes) :
    didtypes.ValidateVerificationMethodID id did = P.ok (Did.validateVMID id did) := by
  unfold didtypes.ValidateVerificationMethodID Did.validateVMID Did.maxVMIDLen
  dsimp only
  generalize (did ++ ([35] : Bytes)) = pfx   -- `#`
  cases h1 : pfx.isPrefixOf id
  · rfl
  · obtain ⟨suffix, rfl⟩ := List.isPrefixOf_iff_prefix.mp h1
    have hlen : decide (Go.len (pfx ++ suffix) - Go.len pfx > 128) = !decide (suffix.length ≤ 128) := by
      rw [← decide_not]
      apply decide_eq_decide.mpr
      simp only [Go.len, List.length_append]
      omega
    simp only [hlen, slice_suffix, space_class, not_isEmpty, go_eval, List.drop_left, Bool.true_and]
    cases decide (suffix.length ≤ 128) <;> rfl

/-- a switch over eleven non-empty names, default `keyType != ""` -/
theorem validateKeyType_refines (t : Bytes) : didtypes.ValidateKeyType t = P.ok (decide (t ≠ [])) := by
  unfold didtypes.ValidateKeyType
  by_cases h : t = []
  · subst h; rfl
  · simp only [h, decide_false]
    split <;> simp [h]

theorem vmValid_refines (x : didtypes.VerificationMethod) (did : Bytes) :
    didtypes.VerificationMethod.Valid x did = P.ok ((toVM x).valid did) := by
  unfold didtypes.VerificationMethod.Valid Did.VM.valid toVM
  cases h : Did.validateVMID x.Id did <;>
    simp only [h, validateVMID_refines, validateKeyType_refines, b58_class, not_isEmpty, go_eval, ite_ok,
      Bool.if_false_left, Bool.not_not, Bool.decide_eq_true, Bool.true_and, Bool.false_and, Bool.and_assoc]

theorem emptyDIDs_refines (l : List Bytes) : didtypes.EmptyDIDs l = P.ok (Did.emptyDIDs l) := by
  unfold didtypes.EmptyDIDs Did.emptyDIDs
  rw [Go.forIn_all_bind l (fun x => decide (x = [])) _ (fun x _ => stop_unless), len_eq_zero]
  cases l with
  | nil => rfl
  | cons a t => cases ((a :: t).all fun x => decide (x = [])) <;> rfl

theorem validateDIDs_refines (l : List Bytes) : didtypes.ValidateDIDs l = P.ok (Did.validateDIDs l) := by
  unfold didtypes.ValidateDIDs Did.validateDIDs
  rw [Go.forIn_all_bind l Did.validateDID _ (fun x _ => by rw [validateDID_refines]; exact stop_unless), emptyDIDs_refines]
  cases Did.emptyDIDs l <;> cases l.all Did.validateDID <;> rfl

theorem validateContexts_refines (cs : List Bytes) :
    didtypes.ValidateContexts cs = P.ok (Did.validateContexts cs) := by
  unfold didtypes.ValidateContexts Did.validateContexts
  dsimp only
  rw [forIn_seen (fun c => decide (c = [])) _ ?_ _ (fun _ _ _ => rfl), len_eq_zero]
  · cases cs with
    | nil => rfl
    | cons c0 rest =>
      have hidx : Go.idx (c0 :: rest) 0 = P.ok c0 := rfl
      have hC : ((c0 :: rest).Nodup ∧ (∀ c ∈ c0 :: rest, decide (c = []) = false) ∧
          ∀ c ∈ c0 :: rest, c ∉ ([] : List Bytes)) ↔
          (Did.nodup (c0 :: rest) && (c0 :: rest).all (· ≠ [])) = true := by
        simp only [List.not_mem_nil, not_false_eq_true, implies_true, and_true, Bool.and_eq_true, List.all_eq_true,
          decide_eq_true_eq, decide_eq_false_iff_not, Did.nodup_iff]
      simp only [hidx, hC, go_eval, List.isEmpty_cons, Bool.and_assoc, Did.contextDIDV1]
      cases (Did.nodup (c0 :: rest) && (c0 :: rest).all (· ≠ [])) <;>
        simp only [go_eval, ite_ok, Bool.if_false_left, decide_not, Bool.not_not, Bool.and_true, Bool.and_false]
      rfl
  · intro c seen
    simp only [didtypes.ValidateContext, go_eval]
    cases seen.contains c <;> by_cases h : c = [] <;> simp [h]

theorem hasDedicated_refines (r : didtypes.VerificationRelationship) :
    didtypes.VerificationRelationship.hasDedicatedMethod r =
      P.ok (match toRel r with | .dedicated _ => true | .ref _ => false) := by
  unfold didtypes.VerificationRelationship.hasDedicatedMethod toRel
  obtain ⟨c⟩ := r
  cases c with
  | none => rfl
  | VerificationMethodId v => rfl
  | VerificationMethod v => cases v <;> rfl

theorem relValid_refines (r : didtypes.VerificationRelationship) (did : Bytes) :
    didtypes.VerificationRelationship.Valid r did = P.ok ((toRel r).valid did) := by
  obtain ⟨c⟩ := r
  rcases c with _ | (_ | vm) | v <;>
    simp only [didtypes.VerificationRelationship.Valid, hasDedicated_refines, toRel, Did.Rel.valid, validateVMID_refines,
      vmValid_refines, go_eval]
  -- an unset or nil content: `default` is the empty id
  all_goals rfl

def refId (r : didtypes.VerificationRelationship) : Bytes :=
  match r.Content with | .VerificationMethodId v => v | _ => default

theorem vmByID_refines (d : didtypes.DIDDocument) (id : Bytes) (hn : ∀ x ∈ d.VerificationMethods, x.isSome = true) :
    didtypes.DIDDocument.VerificationMethodByID d id =
      P.ok (match (d.VerificationMethods.filterMap _root_.id).find? (fun vm => vm.Id = id) with
        | some vm => (vm, true)
        | none => (default, false)) := by
  unfold didtypes.DIDDocument.VerificationMethodByID
  rw [Go.forIn_find d.VerificationMethods fun x => x.bind fun vm => if vm.Id = id then some (vm, true) else none]
  · have : ∀ l : List (Option didtypes.VerificationMethod),
        l.findSome? (fun x => x.bind fun vm => if vm.Id = id then some (vm, true) else none) =
          ((l.filterMap _root_.id).find? (fun vm => vm.Id = id)).map (·, true) := by
      intro l
      induction l with
      | nil => rfl
      | cons x l ih =>
        cases x with
        | none => simpa using ih
        | some vm => by_cases hv : vm.Id = id <;> simp [hv, ih]
    rw [this]
    cases (d.VerificationMethods.filterMap _root_.id).find? (fun vm => vm.Id = id) <;> rfl
  · intro x hx
    obtain ⟨vm, rfl⟩ := Option.isSome_iff_exists.mp (hn x hx)
    simp only [go_eval, Option.bind_some]
    exact return_if

theorem find_toVM (l : List didtypes.VerificationMethod) (id : Bytes) :
    ((l.find? (fun vm => vm.Id = id)).map toVM) = Did.vmByID (l.map toVM) id := by
  unfold Did.vmByID
  rw [List.find?_map]
  rfl

theorem validRels_refines (d : didtypes.DIDDocument) (rs : List didtypes.VerificationRelationship)
    (hn : ∀ x ∈ d.VerificationMethods, x.isSome = true) :
    didtypes.DIDDocument.validVerificationRelationships d rs = P.ok (Did.validRels (toDoc d) (rs.map toRel)) := by
  unfold didtypes.DIDDocument.validVerificationRelationships Did.validRels
  dsimp only
  rw [List.all_map, Go.forIn_all_bind rs _ _ ?_]
  · cases rs.all _ <;> rfl
  · intro r _
    have look (a : Bool) (rid : Bytes) :
        (if (!a) = true then P.ok (ForInStep.done (some false, ()))
          else didtypes.DIDDocument.VerificationMethodByID d rid >>= fun t =>
            if (!t.snd) = true then P.ok (ForInStep.done (some false, ())) else P.ok (ForInStep.yield (none, ()))) =
        P.ok (if (a && (Did.vmByID ((d.VerificationMethods.filterMap id).map toVM) rid).isSome) = true
          then ForInStep.yield (none, ()) else ForInStep.done (some false, ())) := by
      rw [vmByID_refines d rid hn, ← find_toVM]
      cases a <;>
        cases (d.VerificationMethods.filterMap id).find? (fun (vm : didtypes.VerificationMethod) => vm.Id = rid) <;> rfl
    simp only [relValid_refines, hasDedicated_refines, go_eval, Function.comp]
    obtain ⟨c⟩ := r
    rcases c with _ | (_ | vm) | v <;> simp only [toRel, go_eval, Bool.and_true]
    case VerificationMethod.some => exact stop_unless
    all_goals exact look _ _

theorem serviceValid_refines (x : didtypes.Service) :
    didtypes.Service.Valid x = P.ok (decide ((toService x).id ≠ []) && decide ((toService x).type ≠ []) &&
      decide ((toService x).endpoint ≠ [])) := rfl

theorem deref_some {α : Type} (site : String) (a : α) : Go.deref site (some a) = P.ok a := Go.deref_some site a

theorem toDoc_fields (d : didtypes.DIDDocument) :
    (toDoc d).id = d.Id ∧ (toDoc d).controller = d.Controller ∧ (toDoc d).contexts = d.Contexts ∧
    (toDoc d).vms = (d.VerificationMethods.filterMap id).map toVM ∧ (toDoc d).auths = d.Authentications.map toRel ∧
    (toDoc d).asserts = d.AssertionMethods.map toRel ∧ (toDoc d).keyAgrs = d.KeyAgreements.map toRel ∧
    (toDoc d).capInvs = d.CapabilityInvocations.map toRel ∧ (toDoc d).capDels = d.CapabilityDelegations.map toRel ∧
    (toDoc d).services = (d.Services.filterMap id).map toService :=
  ⟨rfl, rfl, rfl, rfl, rfl, rfl, rfl, rfl, rfl, rfl⟩

/-- **`DIDDocument.Valid()` refines `Doc.valid`**, for every document without nil elements in its repeated
message fields. -/
theorem docValid_refines (d : didtypes.DIDDocument) (hn : NoNil d) :
    didtypes.DIDDocument.Valid d = P.ok ((toDoc d).valid) := by
  unfold didtypes.DIDDocument.Valid
  extract_lets +onlyGivenNames doc
  rw [forIn_all_bind doc.VerificationMethods (Option.any fun vm => (toVM vm).valid d.Id) _ ?_,
    forIn_all_bind doc.Services (Option.any fun sv =>
      decide ((toService sv).id ≠ []) && decide ((toService sv).type ≠ []) && decide ((toService sv).endpoint ≠ [])) _ ?_]
  · -- Every check is rewritten where it stands; the join points of the translation (`have __do_jp := …`, one after
    -- each `if b { b = … }`) are kept meanwhile, or the rest of the function is rewritten once per way of reaching it.
    simp -zetaHave only [doc, didtypes.DIDDocument.Empty, didtypes.EmptyDID, validateDID_refines, emptyDIDs_refines,
      validateDIDs_refines, validateContexts_refines, validRels_refines d _ hn.1, go_eval, len_eq_zero,
      Did.Doc.valid, Did.Doc.empty, toDoc_fields, List.isEmpty_map, isEmpty_filterMap_some _ hn.1, List.all_map,
      all_filterMap_some hn.1, all_filterMap_some hn.2, Function.comp_def]
    -- the two nil-able fields decide which dereferences run
    cases hC : d.Controller <;> cases hX : d.Contexts <;>
      simp only [go_eval, ite_ok, Bool.if_false_left, Bool.if_false_right, Bool.if_true_left, Bool.decide_eq_true,
        Bool.true_and, Bool.and_true, Bool.not_not, Bool.and_assoc]
    -- `c != nil && !EmptyDIDs(c) && !ValidateDIDs(c)` is evaluated with short-circuit by the code, strictly by the model
    all_goals cases Did.emptyDIDs _ <;> cases Did.validateDIDs _ <;> rfl
  · intro x hx
    obtain ⟨sv, rfl⟩ := Option.isSome_iff_exists.mp (hn.2 x hx)
    exact stop_unless
  · intro x hx
    obtain ⟨vm, rfl⟩ := Option.isSome_iff_exists.mp (hn.1 x hx)
    simp only [go_eval, vmValid_refines]
    exact stop_unless

/-- the registered error a model validation outcome stands for (`bech32`: the SDK's own decoding error, which the
validators return unwrapped) -/
def verr : Outcome Unit → Go.Err
  | .ok _ => none
  | .err "did/3:invalid-did" => some "did/3"
  | .err "did/4:invalid-doc" => some "did/4"
  | .err "did/6:invalid-sig" => some "did/6"
  | .err "sdk:invalid-address" => some "bech32"
  | _ => some "?"

/-- what the real bech32 decoder guarantees; needed because the Go validators end with `if addr.Empty()`, a check the
model lacks -/
def NonEmptyDec (bech : Go.Bech32) : Prop := ∀ s a, bech.dec s = some a → a ≠ []

/-- `docBytes`: the marshalled document the model's message carries for the signature check; arbitrary for
`ValidateBasic`, `Go.Proto.marshal d` in the handlers -/
def toCreate (m : didtypes.MsgCreateDIDRequest) (docBytes : Bytes) : Did.Msg :=
  .create m.Did (m.Document.map toDoc) docBytes m.VerificationMethodId m.Signature m.FromAddress
def toUpdate (m : didtypes.MsgUpdateDIDRequest) (docBytes : Bytes) : Did.Msg :=
  .update m.Did (m.Document.map toDoc) docBytes m.VerificationMethodId m.Signature m.FromAddress
def toDeactivate (m : didtypes.MsgDeactivateDIDRequest) : Did.Msg :=
  .deactivate m.Did m.VerificationMethodId m.Signature m.FromAddress

/-- for `simp`: the equations of `verr` match the literals (string equality by `rfl` is slow to check); `eq_n` is the
n-th arm of the match: keep the order -/
theorem verr_codes : verr (.ok ()) = none ∧ verr (.err "did/3:invalid-did") = didtypes.ErrInvalidDID ∧
    verr (.err "did/4:invalid-doc") = didtypes.ErrInvalidDIDDocument ∧
    verr (.err "did/6:invalid-sig") = didtypes.ErrInvalidSignature ∧ verr (.err "sdk:invalid-address") = some "bech32" :=
  ⟨verr.eq_1 (), verr.eq_2, verr.eq_3, verr.eq_4, verr.eq_5⟩

theorem isEmpty_len (b : Bytes) : (b.isEmpty || decide (Go.len b = 0)) = decide (b = []) := by
  rw [len_eq_zero, Bool.or_self]
  cases b <;> rfl

theorem addr_tail (bech : Go.Bech32) (hne : NonEmptyDec bech) (from_ : Bytes) :
    (if (!((Go.accAddressFromBech32 bech from_).2).isNone) = true then (Go.accAddressFromBech32 bech from_).2
      else if ((Go.accAddressFromBech32 bech from_).1).isEmpty = true then some "sdk/7" else default) =
    if (bech.dec from_).isNone then some "bech32" else none := by
  rcases acc_cases bech from_ with ⟨a, hd, h⟩ | ⟨hd, h⟩
  · rw [h, hd]
    cases a with
    | nil => exact absurd rfl (hne _ _ hd)
    | cons x t => rfl
  · rw [h, hd]
    rfl

theorem deactivate_validateBasic_refines (bech : Go.Bech32) (hne : NonEmptyDec bech) (m : didtypes.MsgDeactivateDIDRequest) :
    didtypes.MsgDeactivateDIDRequest.ValidateBasic bech (some m) =
      P.ok (verr (Did.validateBasic bech.dec (toDeactivate m))) := by
  unfold didtypes.MsgDeactivateDIDRequest.ValidateBasic Did.validateBasic toDeactivate
  -- `P.ok` and `verr` are moved outwards through the conditionals: both sides are one chain of conditions over codes
  simp only [go_eval, validateDID_refines, len_eq_zero, ite_self, addr_tail bech hne, ite_ok, apply_ite verr,
    ← List.isEmpty_iff, verr_codes]

theorem create_validateBasic_refines (bech : Go.Bech32) (hne : NonEmptyDec bech) (m : didtypes.MsgCreateDIDRequest)
    (docBytes : Bytes) (hn : ∀ d, m.Document = some d → NoNil d) :
    didtypes.MsgCreateDIDRequest.ValidateBasic bech (some m) =
      P.ok (verr (Did.validateBasic bech.dec (toCreate m docBytes))) := by
  unfold didtypes.MsgCreateDIDRequest.ValidateBasic Did.validateBasic toCreate
  cases hdoc : m.Document with
  | none =>
    simp only [hdoc, go_eval, validateDID_refines, ite_ok, apply_ite verr, verr_codes]
  | some d =>
    simp only [hdoc, go_eval, validateDID_refines, docValid_refines d (hn d hdoc), len_eq_zero, ite_self,
      addr_tail bech hne, ite_ok, apply_ite verr, ← List.isEmpty_iff, show (toDoc d).id = d.Id from rfl,
      verr_codes]

/-- the Go function is `MsgCreateDIDRequest.ValidateBasic` over again: both sides unfold to those of the theorem above -/
theorem update_validateBasic_refines (bech : Go.Bech32) (hne : NonEmptyDec bech) (m : didtypes.MsgUpdateDIDRequest)
    (docBytes : Bytes) (hn : ∀ d, m.Document = some d → NoNil d) :
    didtypes.MsgUpdateDIDRequest.ValidateBasic bech (some m) =
      P.ok (verr (Did.validateBasic bech.dec (toUpdate m docBytes))) :=
  create_validateBasic_refines bech hne ⟨m.Did, m.Document, m.VerificationMethodId, m.Signature, m.FromAddress⟩ docBytes hn

end Panacea.Refine.DidTypes
