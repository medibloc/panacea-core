import Lean.Meta.Tactic.Simp.RegisterCommand
import Lean.Meta.Tactic.Simp.BuiltinSimprocs.Core
/-- Rewrite rules that evaluate one step of translated Go code once its inputs are known, and of the model's `Outcome`
chains, so that both sides of a refinement goal advance together.  Members are tagged where they are proved:
`Refine/Basic.lean` (there also core's simproc `reduceIte`, for which the second import is), `idx0`–`idx2` (`Go.idx` on a literal
list) in `CompKeyString.lean`, and locally the `res_…`/`okOrErr_…` rules in `Pnft.lean`. -/
register_simp_attr go_eval
