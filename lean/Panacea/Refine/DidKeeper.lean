import Panacea.Refine.DidTypes
import Panacea.Refine.Store
/-!
# Refinement: the translated DID keeper and message server compute the hand-written model

`VerifyDIDOwnership` of `/repo/x/did/keeper` is `Did.verifyOwnership`, and `CreateDID / UpdateDID / DeactivateDID`, on a
well-formed world and a message whose document is present and holds no nil entries, do what `Did.handle` does on the
registry the world stands for.  Parameters, never axioms: the signature scheme, the codec of `DIDDocumentWithSeq`
(`LawfulProto`) and `CodecFacts`.
-/
namespace Panacea.Refine.DidKeeper
open Panacea Panacea.Gen Panacea.Go Panacea.Refine.DidTypes

variable [Go.Proto didtypes.DIDDocument]

def toCrypto (c : Go.SigScheme) : Did.Crypto := { verify := c.verify }

def vmResult (o : Option Did.VM) (r : didtypes.VerificationMethod × Bool) : Prop :=
  match o with
  | some vm => r.2 = true ∧ toVM r.1 = vm
  | none => r.2 = false

/-- the loop of `VerificationMethodFrom` as a first-match search -/
def fromStep (d : didtypes.DIDDocument) (id : Bytes) (r : didtypes.VerificationRelationship) :
    Option (didtypes.VerificationMethod × Bool) :=
  match r.Content with
  | .VerificationMethod (some vm) => if vm.Id = id then some (vm, true) else none
  | .VerificationMethodId v =>
    if v = id then
      some (match (d.VerificationMethods.filterMap _root_.id).find? (fun vm => vm.Id = v) with
        | some vm => (vm, true)
        | none => (default, false))
    else none
  | _ => if (default : Bytes) = id then
      some (match (d.VerificationMethods.filterMap _root_.id).find? (fun vm => vm.Id = default) with
        | some vm => (vm, true)
        | none => (default, false))
    else none

theorem vmFrom_run (d : didtypes.DIDDocument) (rs : List didtypes.VerificationRelationship) (id : Bytes)
    (hn : ∀ x ∈ d.VerificationMethods, x.isSome = true) :
    didtypes.DIDDocument.VerificationMethodFrom d rs id =
      P.ok ((rs.findSome? (fromStep d id)).getD (default, false)) := by
  unfold didtypes.DIDDocument.VerificationMethodFrom
  dsimp only
  rw [Go.forIn_find rs (fromStep d id)]
  · cases rs.findSome? (fromStep d id) <;> rfl
  · intro r _
    obtain ⟨c⟩ := r
    rcases c with _ | (_ | vm) | v <;>
      simp only [hasDedicated_refines, toRel, fromStep, vmByID_refines d _ hn, go_eval]
    all_goals exact return_if

/-- a reference that matches is looked up among the document's methods, whatever follows it (`look`) -/
theorem findSome_vmFrom (d : didtypes.DIDDocument) (id : Bytes) (rs : List didtypes.VerificationRelationship) :
    ((rs.findSome? (fromStep d id)).getD (default, false)).2 = (Did.vmFrom (toDoc d) (rs.map toRel) id).isSome ∧
    (∀ vm, Did.vmFrom (toDoc d) (rs.map toRel) id = some vm →
      toVM ((rs.findSome? (fromStep d id)).getD (default, false)).1 = vm) := by
  induction rs with
  | nil => exact ⟨rfl, by intro vm h; cases h⟩
  | cons r rs ih =>
    have look (v : Bytes) (x : didtypes.VerificationMethod × Bool)
        (hx : x = match (d.VerificationMethods.filterMap _root_.id).find? (fun vm => vm.Id = v) with
          | some vm => (vm, true)
          | none => (default, false)) :
        x.2 = (Did.vmByID (toDoc d).vms v).isSome ∧ ∀ vm, Did.vmByID (toDoc d).vms v = some vm → toVM x.1 = vm := by
      subst hx
      show _ = (Did.vmByID ((d.VerificationMethods.filterMap _root_.id).map toVM) v).isSome ∧
        ∀ vm, Did.vmByID ((d.VerificationMethods.filterMap _root_.id).map toVM) v = some vm → _
      rw [← find_toVM]
      cases (d.VerificationMethods.filterMap _root_.id).find? (fun (vm : didtypes.VerificationMethod) => vm.Id = v) with
      | none => exact ⟨rfl, by intro vm h; cases h⟩
      | some x => exact ⟨rfl, by intro vm h; cases h; rfl⟩
    obtain ⟨c⟩ := r
    have hd : (default : Bytes) = [] := rfl
    rcases c with _ | (_ | vm) | v <;> simp only [List.findSome?_cons, fromStep, List.map_cons, toRel, Did.vmFrom, hd]
    · by_cases h : ([] : Bytes) = id <;> simp only [h, go_eval]
      · exact look _ _ rfl
      · exact ih
    · by_cases h : ([] : Bytes) = id <;> simp only [h, go_eval]
      · exact look _ _ rfl
      · exact ih
    · by_cases h : vm.Id = id <;> simp only [show (toVM vm).id = vm.Id from rfl, h, if_true, if_false]
      · exact ⟨rfl, fun x hx => (Option.some.inj hx)⟩
      · exact ih
    · by_cases h : v = id <;> simp only [h, go_eval]
      · exact look _ _ rfl
      · exact ih

def oerr : String → Go.Err
  | "did/8:vm-not-found" => some "did/8"
  | "did/15:key-type" => some "did/15"
  | "did/10:pubkey" => some "did/10"
  | "did/9:sig" => some "did/9"
  | "did/12:seq-exhausted" => some "did/12"
  | "did/13:deactivated" => some "did/13"
  | "did/2:exists" => some "did/2"
  | "did/5:not-found" => some "did/5"
  | _ => none

/-- for `simp`: the equations of `oerr` match the literals (string equality by `rfl` is slow to check); `eq_n` is the
n-th arm of the match: keep the order -/
theorem oerr_codes : oerr "did/8:vm-not-found" = didtypes.ErrVerificationMethodIDNotFound ∧
    oerr "did/15:key-type" = didtypes.ErrVerificationMethodKeyTypeNotImplemented ∧
    oerr "did/10:pubkey" = didtypes.ErrInvalidSecp256k1PublicKey ∧ oerr "did/9:sig" = didtypes.ErrSigVerificationFailed ∧
    oerr "did/12:seq-exhausted" = didtypes.ErrInvalidDIDDocumentWithSeq ∧
    oerr "did/13:deactivated" = didtypes.ErrDIDDeactivated ∧ oerr "did/2:exists" = didtypes.ErrDIDExists ∧
    oerr "did/5:not-found" = didtypes.ErrDIDNotFound :=
  ⟨oerr.eq_1, oerr.eq_2, oerr.eq_3, oerr.eq_4, oerr.eq_5, oerr.eq_6, oerr.eq_7, oerr.eq_8⟩

theorem pubKeyFromBase58_run (s : Bytes) :
    didsecp.PubKeyFromBase58 s =
      P.ok (if (Did.b58Decode s).length = 33 then (Did.b58Decode s, none)
        else (List.replicate 33 default, some "fmt:invalid Secp256k1 public key. len:%d, expected:%d")) := by
  unfold didsecp.PubKeyFromBase58
  have hm : (Go.make (33 : Int) : P Bytes) = P.ok (List.replicate 33 default) := Go.make_ok 33
  have hlen : Go.len (Did.b58Decode s) ≠ Go.len (List.replicate 33 (default : UInt8)) ↔
      ¬ (Did.b58Decode s).length = 33 := by
    simp only [Go.len, List.length_replicate]
    omega
  simp only [hm, go_eval, hlen]
  by_cases h : (Did.b58Decode s).length = 33
  · simp only [h, go_eval, not_true_eq_false, Go.copy_full _ 33 h]
    rfl
  · simp only [h, go_eval, not_false_eq_true]

/-- The value for `.panic` is never met: `Did.verifyOwnership` does not panic (`verifyOwnership_cases`). -/
def ownRes : Outcome Nat → Nat × Go.Err
  | .ok n => (n, none)
  | .err c => (0, oerr c)
  | .panic _ => (0, none)

theorem verifyOwnership_refines (crypto : Go.SigScheme) (signData : didtypes.DIDDocument) (seq : Nat)
    (doc : didtypes.DIDDocument) (vmID sig : Bytes) (hn : ∀ x ∈ doc.VerificationMethods, x.isSome = true) :
    didkeeper.VerifyDIDOwnership crypto (some signData) seq (some doc) vmID sig =
      P.ok (ownRes (Did.verifyOwnership (toCrypto crypto) (Go.Proto.marshal signData) seq (toDoc doc) vmID sig)) := by
  unfold didkeeper.VerifyDIDOwnership Did.verifyOwnership
  -- folds the translated byte literals of the two key-type names back into the model's constants
  rw [← Did.es256k2019.eq_1, ← Did.es256k2018.eq_1]
  obtain ⟨h2, h3⟩ := findSome_vmFrom doc vmID doc.Authentications
  simp only [go_eval, vmFrom_run doc _ vmID hn, show (toDoc doc).auths = doc.Authentications.map toRel from rfl]
  generalize (doc.Authentications.findSome? (fromStep doc vmID)).getD (default, false) = g at h2 h3 ⊢
  cases hv : Did.vmFrom (toDoc doc) (doc.Authentications.map toRel) vmID with
  | none =>
    rw [hv] at h2
    simp only [h2, go_eval, ownRes, oerr_codes]
  | some vm =>
    obtain rfl := h3 vm hv
    rw [hv] at h2
    simp only [h2, go_eval, pubKeyFromBase58_run, Bool.and_eq_true]
    have ht : (toVM g.1).type = g.1.«Type» := rfl
    have hp : (toVM g.1).pubKeyB58 = g.1.PublicKeyBase58 := rfl
    rw [ht, hp]
    by_cases hk : g.1.«Type» ≠ Did.es256k2019 ∧ g.1.«Type» ≠ Did.es256k2018
    · rw [if_pos hk, if_pos hk]
      simp only [ownRes, oerr_codes, go_eval]
    · rw [if_neg hk, if_neg hk]
      by_cases hl : (Did.b58Decode g.1.PublicKeyBase58).length = 33
      · simp only [hl, go_eval, Go.didVerify, toCrypto, ne_eq, not_true_eq_false]
        have hu : Go.u64add seq 1 = Did.nextSeq seq := u64add_one seq
        by_cases hs : crypto.verify (Did.b58Decode g.1.PublicKeyBase58) (Did.signBytes (Go.Proto.marshal signData) seq) sig = true
        · simp only [hs, hu, go_eval]
          by_cases hz : Did.nextSeq seq = 0 <;>
            simp only [hz, go_eval, ownRes, oerr_codes]
          rfl
        · simp only [hs, go_eval, ownRes, oerr_codes]
      · simp only [hl, go_eval, ne_eq, not_false_eq_true, ownRes, oerr_codes]

theorem verifyOwnership_cases (cr : Did.Crypto) (data : Bytes) (seq : Nat) (doc : Did.Doc) (vmID sig : Bytes) :
    (∃ n, Did.verifyOwnership cr data seq doc vmID sig = .ok n) ∨
    (∃ c e, Did.verifyOwnership cr data seq doc vmID sig = .err c ∧ oerr c = some e) := by
  obtain ⟨h8, h15, h10, h9, h12, -⟩ := oerr_codes
  unfold Did.verifyOwnership
  cases Did.vmFrom doc doc.auths vmID with
  | none => exact .inr ⟨_, _, rfl, h8⟩
  | some vm =>
    dsimp only
    -- `split` finds the same cases at ten times the work
    by_cases h1 : vm.type ≠ Did.es256k2019 ∧ vm.type ≠ Did.es256k2018
    · rw [if_pos h1]
      exact .inr ⟨_, _, rfl, h15⟩
    rw [if_neg h1]
    by_cases h2 : (Did.b58Decode vm.pubKeyB58).length ≠ 33
    · rw [if_pos h2]
      exact .inr ⟨_, _, rfl, h10⟩
    rw [if_neg h2]
    by_cases h3 : cr.verify (Did.b58Decode vm.pubKeyB58) (Did.signBytes data seq) sig = true
    · rw [if_pos h3]
      by_cases h4 : Did.nextSeq seq = 0
      · rw [if_pos h4]
        exact .inr ⟨_, _, rfl, h12⟩
      · rw [if_neg h4]
        exact .inl ⟨_, rfl⟩
    · rw [if_neg h3]
      exact .inr ⟨_, _, rfl, h9⟩

section registry
variable [Go.Proto didtypes.DIDDocumentWithSeq] [Go.LawfulProto didtypes.DIDDocumentWithSeq]
open Panacea.Refine.Aol (table table_get table_set_same Decodes decodes_set_same store_setStore)

def toDWS (x : didtypes.DIDDocumentWithSeq) : Did.DocWithSeq :=
  { doc := x.Document.map toDoc, seq := x.Sequence,
    docBytes := match x.Document with | some d => Go.Proto.marshal d | none => [] }

def absD (w : World) : Did.State := table toDWS (w.store "did") [0]

/-- facts about the real protobuf encoding that the model states concretely (the last two observed by the
correspondence run) -/
structure CodecFacts : Prop where
  nonEmpty : ∀ x : didtypes.DIDDocumentWithSeq, (Go.Proto.marshal x : Bytes) ≠ []      -- length-prefixed
  zeroDoc : (Go.Proto.marshal (default : didtypes.DIDDocument) : Bytes) = []
  idOnly : ∀ did : Bytes, (Go.Proto.marshal ({ Id := did } : didtypes.DIDDocument) : Bytes) = Did.marshalIdOnly did

/-- Unlike x/aol there is no map-level `WFMap`: one table. -/
structure WFD (w : World) : Prop where
  sorted : (w.store "did").Sorted
  decodes : Decodes didtypes.DIDDocumentWithSeq (w.store "did") [0]
  -- `GetDIDDocument` returns the zero value for an empty `bz` without decoding
  nonEmpty : ∀ k v, (w.store "did").get ([0] ++ k) = some v → v ≠ []
  -- what `verifyOwnership_refines` needs of a stored document
  noNil : ∀ k v x d, (w.store "did").get ([0] ++ k) = some v →
    (Go.Proto.unmarshal v : Option didtypes.DIDDocumentWithSeq) = some x → x.Document = some d → NoNil d

theorem getD_marshal' {G : Type} [Inhabited G] [Go.Proto G] [Go.LawfulProto G] (x : G) :
    ((Go.Proto.unmarshal (Go.Proto.marshal x) : Option G).getD default) = x :=
  Go.getD_marshal x

/-- What `GetDIDDocument` returns: for an absent key the zero value, without decoding (so not `Refine.Aol.readG`). -/
def readD (w : World) (did : Bytes) : didtypes.DIDDocumentWithSeq :=
  match (w.store "did").get ([0] ++ did) with
  | some v => ((Go.Proto.unmarshal v : Option didtypes.DIDDocumentWithSeq).getD default)
  | none => default

theorem getDoc_run (w : World) (did : Bytes) (hwf : WFD w) :
    didkeeper.Keeper.GetDIDDocument did w = P.ok (readD w did, w) := by
  unfold didkeeper.Keeper.GetDIDDocument readD
  simp only [Go.Store.get, Go.prefixStore, Go.kvStore, didtypes.DIDKeyPrefix, List.nil_append]
  rcases Option.eq_none_or_eq_some ((w.store "did").get ([0] ++ did)) with hg | ⟨v, hg⟩
  · simp only [hg]; rfl
  · obtain ⟨x, hu⟩ := Option.isSome_iff_exists.mp (hwf.decodes did v hg)
    have hne : v.isEmpty = false := by simpa using hwf.nonEmpty did v hg
    simp only [hg, Option.getD_some, hne, Go.mustUnmarshal, hu, go_eval]

theorem read_abs (w : World) (did : Bytes) : toDWS (readD w did) = Did.getDoc (absD w) did := by
  unfold readD Did.getDoc absD
  rw [table_get]
  cases (w.store "did").get ([0] ++ did) <;> rfl

theorem read_noNil (w : World) (did : Bytes) (hwf : WFD w) (d : didtypes.DIDDocument)
    (h : (readD w did).Document = some d) : NoNil d := by
  unfold readD at h
  cases hg : (w.store "did").get ([0] ++ did) with
  | none => rw [hg] at h; cases h
  | some v =>
    obtain ⟨x, hu⟩ := Option.isSome_iff_exists.mp (hwf.decodes did v hg)
    simp only [hg, hu, Option.getD_some] at h
    exact hwf.noNil did v x d hg hu h

theorem setDoc_run (w : World) (did : Bytes) (x : didtypes.DIDDocumentWithSeq) :
    didkeeper.Keeper.SetDIDDocument did x w =
      P.ok (w.setStore "did" ((w.store "did").set ([0] ++ did) (Go.Proto.marshal x))) := by
  unfold didkeeper.Keeper.SetDIDDocument
  dsimp only
  rw [Go.set_run _ _ _ _ (by simp [Go.prefixStore, Go.kvStore, didtypes.DIDKeyPrefix])]
  rfl

theorem abs_set (w : World) (hs : (w.store "did").Sorted) (did : Bytes) (x : didtypes.DIDDocumentWithSeq) :
    absD (w.setStore "did" ((w.store "did").set ([0] ++ did) (Go.Proto.marshal x))) = (absD w).set did (toDWS x) := by
  unfold absD
  rw [store_setStore, table_set_same _ _ hs, getD_marshal']

theorem wfd_set (w : World) (hwf : WFD w) (cf : CodecFacts) (did : Bytes) (x : didtypes.DIDDocumentWithSeq)
    (hx : ∀ d, x.Document = some d → NoNil d) :
    WFD (w.setStore "did" ((w.store "did").set ([0] ++ did) (Go.Proto.marshal x))) := by
  refine ⟨?_, ?_, ?_, ?_⟩
  · rw [store_setStore]
    exact Map.sorted_set hwf.sorted
  · rw [store_setStore]
    exact decodes_set_same _ _ _ _ _ hwf.decodes
  · intro k v hv
    rw [store_setStore] at hv
    rcases Map.get_set_cases hv with ⟨-, rfl⟩ | h
    · exact cf.nonEmpty x
    · exact hwf.nonEmpty k v h
  · intro k v y d hv hu hd
    rw [store_setStore] at hv
    rcases Map.get_set_cases hv with ⟨-, rfl⟩ | h
    · rw [Go.LawfulProto.unmarshal_marshal] at hu
      cases hu
      exact hx d hd
    · exact hwf.noNil k v y d h hu hd

theorem wfd_empty : WFD ({} : World) :=
  ⟨Map.sorted_nil, fun _ _ h => (nomatch (h : none = some _)), fun _ _ h => (nomatch (h : none = some _)),
    fun _ _ _ _ h => (nomatch (h : none = some _))⟩

/-- **Simulation**: accepted ↔ accepted and the new world stands for the model's new registry and is
well-formed again; rejected ↔ rejected with the same registered error, world unchanged; panic ↔ panic. -/
def SimD {ρ : Type} (w : World) (g : P (Option ρ × Go.Err × World)) (m : Outcome Did.State) : Prop :=
  match m with
  | .ok s' => ∃ v w', g = P.ok (some v, none, w') ∧ absD w' = s' ∧ WFD w'
  | .err c => g = P.ok (none, oerr c, w)
  | .panic _ => ∃ s, g = P.panic s

theorem emptyWS_run (x : didtypes.DIDDocumentWithSeq) :
    didtypes.DIDDocumentWithSeq.Empty x = P.ok (toDWS x).isEmpty := by
  obtain ⟨_ | d, seq⟩ := x <;> rfl

theorem deactivated_run (x : didtypes.DIDDocumentWithSeq) (h : (toDWS x).isEmpty = false) :
    ∃ sd b, x.Document = some sd ∧ didtypes.DIDDocumentWithSeq.Deactivated x = P.ok b ∧
      (toDWS x).deactivated = .ok b ∧ (toDWS x).doc = some (toDoc sd) := by
  obtain ⟨_ | sd, seq⟩ := x
  · cases h
  · exact ⟨sd, _, rfl, rfl, rfl, rfl⟩

/-- the epilogue the three handlers share -/
theorem simD_verify {ρ : Type} (cf : CodecFacts) (w : World) (hwf : WFD w)
    {cr : Did.Crypto} {data : Bytes} {seq : Nat} {doc : Did.Doc} {vmID sig : Bytes} (did : Bytes)
    (mk : Nat → didtypes.DIDDocumentWithSeq) (hmk : ∀ n d, (mk n).Document = some d → NoNil d) (v : ρ)
    {f : Nat → Did.DocWithSeq} (hf : ∀ n, toDWS (mk n) = f n) :
    SimD w
      (if (!(ownRes (Did.verifyOwnership cr data seq doc vmID sig)).2.isNone) = true
        then P.ok (none, (ownRes (Did.verifyOwnership cr data seq doc vmID sig)).2, w)
        else didkeeper.Keeper.SetDIDDocument did (mk (ownRes (Did.verifyOwnership cr data seq doc vmID sig)).1) w >>=
          fun w' => P.ok (some v, none, w'))
      (Did.verifyOwnership cr data seq doc vmID sig >>= fun n => .ok ((absD w).set did (f n))) := by
  have hV := verifyOwnership_cases cr data seq doc vmID sig
  generalize Did.verifyOwnership cr data seq doc vmID sig = V at hV ⊢
  rcases hV with ⟨n, rfl⟩ | ⟨c, e, rfl, he⟩
  · simp only [ownRes, go_eval, setDoc_run]
    exact ⟨v, _, rfl, hf n ▸ abs_set w hwf.sorted did _, wfd_set w hwf cf did _ (hmk n)⟩
  · simp only [ownRes, he, go_eval, SimD]

theorem createDID_refines (crypto : Go.SigScheme) (cf : CodecFacts) (w : World) (hwf : WFD w)
    (m : didtypes.MsgCreateDIDRequest) (d : didtypes.DIDDocument) (hdoc : m.Document = some d) (hn : NoNil d) :
    SimD w (didkeeper.msgServer.CreateDID crypto (some m) w)
      (Did.handle (toCrypto crypto) (absD w) (toCreate m (Go.Proto.marshal d))) := by
  unfold didkeeper.msgServer.CreateDID Did.handle toCreate
  simp only [go_eval, getDoc_run w _ hwf, emptyWS_run, ← read_abs, hdoc]
  generalize readD w m.Did = x
  cases he : (toDWS x).isEmpty
  · obtain ⟨_, b, -, h1, h2, -⟩ := deactivated_run x he
    simp only [h1, h2, go_eval]
    cases b
    · simp only [go_eval, SimD, oerr_codes]
      rfl
    · simp only [go_eval, SimD, oerr_codes]
      rfl
  · simp only [go_eval, verifyOwnership_refines crypto d 0 d _ _ hn.1, didtypes.NewDIDDocumentWithSeq]
    exact simD_verify cf w hwf m.Did (fun _ => ⟨some d, 0⟩)
      (fun _ _ h => Option.some.inj h ▸ hn) default fun _ => rfl

/-- the prologue `UpdateDID` and `DeactivateDID` share -/
theorem simD_live {ρ : Type} {w : World} {x : didtypes.DIDDocumentWithSeq}
    {k : P (Option ρ × Go.Err × World)} {f : Did.Doc → Outcome Did.State}
    (hk : ∀ sd, x.Document = some sd → SimD w k (f (toDoc sd))) :
    SimD w
      (if (toDWS x).isEmpty = true then P.ok (none, didtypes.ErrDIDNotFound, w)
        else didtypes.DIDDocumentWithSeq.Deactivated x >>= fun dead =>
          if dead = true then P.ok (none, didtypes.ErrDIDDeactivated, w) else k)
      (if (toDWS x).isEmpty = true then .err "did/5:not-found"
        else (toDWS x).deactivated >>= fun dead =>
          if dead = true then .err "did/13:deactivated"
          else match (toDWS x).doc with
            | none => .panic "unreachable"
            | some stored => f stored) := by
  cases he : (toDWS x).isEmpty
  · obtain ⟨sd, b, hsd, h1, h2, h3⟩ := deactivated_run x he
    simp only [h1, h2, h3, go_eval]
    cases b
    · exact hk sd hsd
    · simp only [go_eval, SimD, oerr_codes]
  · simp only [go_eval, SimD, oerr_codes]

theorem updateDID_refines (crypto : Go.SigScheme) (cf : CodecFacts) (w : World) (hwf : WFD w)
    (m : didtypes.MsgUpdateDIDRequest) (d : didtypes.DIDDocument) (hdoc : m.Document = some d) (hn : NoNil d) :
    SimD w (didkeeper.msgServer.UpdateDID crypto (some m) w)
      (Did.handle (toCrypto crypto) (absD w) (toUpdate m (Go.Proto.marshal d))) := by
  unfold didkeeper.msgServer.UpdateDID Did.handle toUpdate
  simp only [go_eval, getDoc_run w _ hwf, emptyWS_run, ← read_abs, hdoc]
  have hnn := read_noNil w m.Did hwf
  generalize readD w m.Did = x at hnn ⊢
  refine simD_live fun sd hsd => ?_
  simp only [go_eval, hsd, verifyOwnership_refines crypto d _ sd _ _ (hnn sd hsd).1, didtypes.NewDIDDocumentWithSeq]
  exact simD_verify cf w hwf m.Did (fun n => ⟨some d, n⟩)
    (fun _ _ h => Option.some.inj h ▸ hn) default fun _ => rfl

theorem toDoc_default : toDoc (default : didtypes.DIDDocument) = Did.emptyDoc := rfl

theorem noNil_default : NoNil (default : didtypes.DIDDocument) :=
  ⟨fun _ hx => absurd hx List.not_mem_nil, fun _ hx => absurd hx List.not_mem_nil⟩

theorem deactivateDID_refines (crypto : Go.SigScheme) (cf : CodecFacts) (w : World) (hwf : WFD w)
    (m : didtypes.MsgDeactivateDIDRequest) :
    SimD w (didkeeper.msgServer.DeactivateDID crypto (some m) w)
      (Did.handle (toCrypto crypto) (absD w) (toDeactivate m)) := by
  unfold didkeeper.msgServer.DeactivateDID Did.handle toDeactivate
  simp only [go_eval, getDoc_run w _ hwf, emptyWS_run, ← read_abs]
  have hnn := read_noNil w m.Did hwf
  generalize readD w m.Did = x at hnn ⊢
  refine simD_live fun sd hsd => ?_
  simp only [go_eval, hsd, verifyOwnership_refines crypto _ _ sd _ _ (hnn sd hsd).1, cf.idOnly,
    didtypes.DIDDocumentWithSeq.Deactivate, didtypes.NewDIDDocumentWithSeq]
  -- the tombstone: the zero document, which encodes to the empty string
  exact simD_verify cf w hwf m.Did (fun n => ⟨some default, n⟩)
    (fun _ _ h => Option.some.inj h ▸ noNil_default) default
    fun n => by simp only [toDWS, Option.map_some, toDoc_default, cf.zeroDoc]

end registry

end Panacea.Refine.DidKeeper
