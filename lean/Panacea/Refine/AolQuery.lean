import Panacea.Refine.Aol
import Panacea.Refine.Basic
/-!
`Keeper.Topic/Writer/Record` (`/repo/x/aol/keeper/grpc_query_*.go`) answer as the model's `queryTopic/Writer/Record` do on
`abs` of the world (`QSim`); a component too long to encode is an error, not a panic (F3).  The error code is compared
only for a nil request.  The paginated listings call the SDK's `query.Paginate` and stay on ties T and D.
-/
namespace Panacea.Refine.Aol
open Panacea Panacea.Gen Panacea.Go Panacea.CompKey Panacea.Refine.CompKey

variable [Go.Proto aoltypes.Owner] [Go.Proto aoltypes.Topic] [Go.Proto aoltypes.Writer] [Go.Proto aoltypes.Record]
variable [Go.LawfulProto aoltypes.Owner] [Go.LawfulProto aoltypes.Topic] [Go.LawfulProto aoltypes.Writer]
  [Go.LawfulProto aoltypes.Record]
variable (bech : Go.Bech32) (w : World)
set_option linter.unusedSectionVars false

def QSim {ρ V : Type} (item : ρ → Option V) (g : P (Option ρ × Go.Err × World)) (m : Outcome V) : Prop :=
  match m with
  | .ok v => ∃ r, g = P.ok (some r, none, w) ∧ item r = some v
  | .err _ => ∃ e, g = P.ok (none, some e, w)
  | .panic _ => ∃ s, g = P.panic s

/-- `look` is abstract, given by its two equations: the three model queries end in three different compiler-generated
`match` auxiliaries, which one lemma cannot name. -/
theorem item_query {κ G V ρ : Type} [Inhabited G] [Go.Proto G] [Go.LawfulProto G] (conv : G → V)
    (tbl : Map V) {p : Bytes} (htbl : tbl = table conv (w.store "aol") p)
    {I : compkey.CompositeKey κ} {key : κ} (vs : List Bytes) (hI : I.ByteSlices key = P.ok vs)
    {hasK : P (Bool × World)} {getK : World → P (G × World)} (mk : G → ρ) {item : ρ → Option V}
    (hhas : hasK = match CompKey.encode vs with
      | some k => P.ok ((w.store "aol").has (p ++ k), w)
      | none => P.panic "err")
    (hget : getK w = match CompKey.encode vs with
      | some k => P.ok (readG G (w.store "aol") p k, w)
      | none => P.panic "err")
    (hitem : ∀ x, item (mk x) = some (conv x)) {look : Bytes → Outcome V}
    (hnone : ∀ k, tbl.get k = none → look k = .err "not-found") (hsome : ∀ k r, tbl.get k = some r → look k = .ok r) :
    QSim w item
      (do let t ← compkey.Encode I key
          if (!t.2.isNone) = true then pure (default, some "grpc/codes.InvalidArgument", w) else do
          let t2 ← hasK
          if (!t2.1) = true then pure (default, some "grpc/codes.NotFound", t2.2) else do
          let t3 ← getK t2.2
          pure (some (mk t3.1), default, t3.2))
      (Aol.encodeQ vs >>= look) := by
  subst htbl hhas
  rw [encodeE_eq I key vs hI]
  unfold encodeSpec Aol.encodeQ
  cases he : CompKey.encode vs with
  | none => exact ⟨_, rfl⟩
  | some k =>
    simp only [go_eval, hget, he]
    have ht := table_get conv (w.store "aol") p k
    unfold Map.has readG
    cases hg : (w.store "aol").get (p ++ k) with
    | none =>
      rw [hg, Option.map_none] at ht
      rw [hnone k ht]
      exact ⟨_, rfl⟩
    | some v =>
      rw [hg, Option.map_some] at ht
      rw [hsome k _ ht]
      exact ⟨_, rfl, hitem _⟩

theorem topicQuery_refines (req : aoltypes.QueryTopicRequest) (hwf : WF w) :
    QSim w (fun r : aoltypes.QueryTopicResponse => r.Topic.map toTopic) (aolkeeper.Keeper.Topic bech (some req) w)
      (Aol.queryTopic (toCodec bech) (abs w) req.OwnerAddress req.TopicName) := by
  unfold aolkeeper.Keeper.Topic Aol.queryTopic Aol.decAddr Go.accAddressFromBech32
  dsimp only [go_eval, toCodec]
  rcases bech.dec req.OwnerAddress with _ | o
  · exact ⟨_, rfl⟩
  apply item_query w toTopic (abs w).topics rfl [o, req.TopicName] ?_
    (fun x => ({ Topic := some x } : aoltypes.QueryTopicResponse)) (hasTopic_run bech w o req.TopicName)
    (getTopic_run bech w o req.TopicName hwf) (fun _ => rfl) (fun k h => by rw [h]) (fun k r h => by rw [h])
  rfl

theorem writerQuery_refines (req : aoltypes.QueryWriterRequest) (hwf : WF w) :
    QSim w (fun r : aoltypes.QueryWriterResponse => r.Writer.map toWriter) (aolkeeper.Keeper.Writer bech (some req) w)
      (Aol.queryWriter (toCodec bech) (abs w) req.OwnerAddress req.TopicName req.WriterAddress) := by
  unfold aolkeeper.Keeper.Writer Aol.queryWriter Aol.decAddr Go.accAddressFromBech32
  dsimp only [go_eval, toCodec]
  rcases bech.dec req.OwnerAddress with _ | o
  · exact ⟨_, rfl⟩
  rcases bech.dec req.WriterAddress with _ | x
  · exact ⟨_, rfl⟩
  apply item_query w toWriter (abs w).writers rfl [o, req.TopicName, x] ?_
    (fun x => ({ Writer := some x } : aoltypes.QueryWriterResponse)) (hasWriter_run bech w o req.TopicName x)
    (getWriter_run bech w o req.TopicName x hwf) (fun _ => rfl) (fun k h => by rw [h]) (fun k r h => by rw [h])
  rfl

theorem recordQuery_refines (req : aoltypes.QueryRecordRequest) (hwf : WF w) :
    QSim w (fun r : aoltypes.QueryRecordResponse => r.Record.map toRecord) (aolkeeper.Keeper.Record bech (some req) w)
      (Aol.queryRecord (toCodec bech) (abs w) req.OwnerAddress req.TopicName req.Offset) := by
  unfold aolkeeper.Keeper.Record Aol.queryRecord Aol.decAddr Go.accAddressFromBech32
  dsimp only [go_eval, toCodec]
  rcases bech.dec req.OwnerAddress with _ | o
  · exact ⟨_, rfl⟩
  apply item_query w toRecord (abs w).records rfl [o, req.TopicName, be64 req.Offset] ?_
    (fun x => ({ Record := some x } : aoltypes.QueryRecordResponse)) (hasRecord_run bech w o req.TopicName req.Offset)
    (getRecord_run bech w o req.TopicName req.Offset hwf) (fun _ => rfl) (fun k h => by rw [h])
    (fun k r h => by rw [h])
  rfl

theorem itemQueries_nil :
    aolkeeper.Keeper.Topic bech none w = P.ok (none, some "grpc/codes.InvalidArgument", w) ∧
    aolkeeper.Keeper.Writer bech none w = P.ok (none, some "grpc/codes.InvalidArgument", w) ∧
    aolkeeper.Keeper.Record bech none w = P.ok (none, some "grpc/codes.InvalidArgument", w) :=
  ⟨rfl, rfl, rfl⟩

end Panacea.Refine.Aol
