import Panacea.Refine.AolGenesis
/-!
`GetAllOwners/Topics/Writers/Records` walk a prefix of the store and decode every key and value; `ExportGenesis` renders
every key in its string form and fills the four genesis maps.  Where the store keys are encodings of admitted tuples,
distinct keys get distinct strings, so each map is the list of its entries, and that list is the model's export of the
table of `abs w`: with the import of `Refine/AolGenesis`, the round trip (`genesis_roundtrip`).
-/
namespace Panacea.Refine.AolExport
open Panacea Panacea.Gen Panacea.Go Panacea.Refine.Aol Panacea.Refine.CompKeyString Panacea.Refine.AolGenesis
open Panacea.Refine.CompKey (decode_refines decodeSpec)
open Panacea.CompKey (owner_slices topic_slices writer_slices record_slices decodeTyped_split)

section
variable [Go.Proto aoltypes.Owner] [Go.Proto aoltypes.Topic] [Go.Proto aoltypes.Writer] [Go.Proto aoltypes.Record]
variable [Go.LawfulProto aoltypes.Owner] [Go.LawfulProto aoltypes.Topic] [Go.LawfulProto aoltypes.Writer]
variable [Go.LawfulProto aoltypes.Record]
variable (bech : Go.Bech32)
set_option linter.unusedSectionVars false

theorem owner_fromBytes (k0 : aoltypes.OwnerCompositeKey) (vs comps : List Bytes)
    (h : CompKey.fromByteSlices .owner vs = .ok comps) :
    (aoltypes.OwnerCompositeKey.asCompositeKey bech).FromByteSlices (some k0) vs = P.ok (none, some (ownerOf comps)) := by
  obtain ⟨o, rfl, rfl, ho⟩ := owner_slices h
  dsimp only [aoltypes.OwnerCompositeKey.asCompositeKey, aoltypes.OwnerCompositeKey.FromByteSlices, go_eval]
  simp only [go_eval, verifyAddr_ok o ho]
  rfl

theorem topic_fromBytes (k0 : aoltypes.TopicCompositeKey) (vs comps : List Bytes)
    (h : CompKey.fromByteSlices .topic vs = .ok comps) :
    (aoltypes.TopicCompositeKey.asCompositeKey bech).FromByteSlices (some k0) vs = P.ok (none, some (topicOf comps)) := by
  obtain ⟨o, t, rfl, rfl, ho⟩ := topic_slices h
  dsimp only [aoltypes.TopicCompositeKey.asCompositeKey, aoltypes.TopicCompositeKey.FromByteSlices, go_eval]
  simp only [go_eval, verifyAddr_ok o ho]
  rfl

theorem writer_fromBytes (k0 : aoltypes.WriterCompositeKey) (vs comps : List Bytes)
    (h : CompKey.fromByteSlices .writer vs = .ok comps) :
    (aoltypes.WriterCompositeKey.asCompositeKey bech).FromByteSlices (some k0) vs = P.ok (none, some (writerOf comps)) := by
  obtain ⟨o, t, x, rfl, rfl, ho, hx⟩ := writer_slices h
  dsimp only [aoltypes.WriterCompositeKey.asCompositeKey, aoltypes.WriterCompositeKey.FromByteSlices, go_eval]
  simp only [go_eval, verifyAddr_ok o ho, verifyAddr_ok x hx]
  rfl

theorem record_fromBytes (k0 : aoltypes.RecordCompositeKey) (vs comps : List Bytes)
    (h : CompKey.fromByteSlices .record vs = .ok comps) :
    (aoltypes.RecordCompositeKey.asCompositeKey bech).FromByteSlices (some k0) vs = P.ok (none, some (recordOf comps)) := by
  obtain ⟨o, t, n, off, rfl, rfl, ho, hl, hf⟩ := record_slices h
  have hb : Go.bigEndianToUint64 n = P.ok off := by
    unfold Go.bigEndianToUint64
    rw [if_neg (by omega), List.take_of_length_le (Nat.le_of_eq hl), hf]
  dsimp only [aoltypes.RecordCompositeKey.asCompositeKey, aoltypes.RecordCompositeKey.FromByteSlices, go_eval, Go.len]
  simp only [go_eval, verifyAddr_ok o ho, hl, hb, recordOf_be64 o t (fromBe64_lt hf)]
  rfl

theorem mustDecode_ok {κ : Type} (I : compkey.CompositeKey κ) (bz : Bytes) (out res : κ) (vs : List Bytes)
    (hd : CompKey.decode bz = some vs) (hf : I.FromByteSlices out vs = P.ok (none, res)) :
    compkey.MustDecode I bz out = P.ok res := by
  unfold compkey.MustDecode
  simp only [decode_refines, decodeSpec, hd, hf, P.ok_bind]
  rfl

/-- the components of a stored key (`[]` for a key that does not decode — excluded by `KeysOK`) -/
def compsOf (kind : CompKey.Kind) (bz : Bytes) : List Bytes :=
  match CompKey.decodeTyped kind bz with
  | .ok c => c
  | _ => []

/-- the weaker half of `AdmittedAt`, which the walk needs: every key under the prefix decodes -/
def KeysOK (kind : CompKey.Kind) (pfx : UInt8) (w : World) : Prop :=
  ∀ e ∈ (w.store "aol").prefixView [pfx], ∃ comps, CompKey.decodeTyped kind e.1 = .ok comps

/-- the common body of the four `GetAll…`, which unfold to it by `rfl` -/
theorem getAll_run {K G : Type} [Inhabited K] [Inhabited G] [Go.Proto G] (I : compkey.CompositeKey (Option K))
    (kind : CompKey.Kind) (pfx : UInt8) (kOf : List Bytes → K)
    (hI : ∀ vs comps, CompKey.fromByteSlices kind vs = .ok comps →
      I.FromByteSlices (some default) vs = P.ok (none, some (kOf comps)))
    (w : World) (hs : (w.store "aol").Sorted) (hd : Decodes G (w.store "aol") [pfx]) (hk : KeysOK kind pfx w) :
    (do
      let mut keys ← (Go.make (0 : Int) : Go.P (List K))
      let mut values ← (Go.make (0 : Int) : Go.P (List G))
      for kv in Go.Store.iterate (Go.prefixStore (Go.kvStore "aol") [pfx]) [] w do
        let t ← compkey.MustDecode I kv.1 (some default)
        let key ← Go.deref "written-back pointer" t
        keys := keys ++ [key]
        let value ← (Go.mustUnmarshal kv.2 : Go.P G)
        values := values ++ [value]
      return (keys, values, w)) =
      P.ok (((w.store "aol").prefixView [pfx]).map (fun e => kOf (compsOf kind e.1)),
            ((w.store "aol").prefixView [pfx]).map (fun e => ((Go.Proto.unmarshal e.2 : Option G).getD default)), w) := by
  simp only [make0, P.ok_bind, Go.Store.iterate, Go.prefixStore, Go.kvStore, List.append_nil, List.nil_append]
  rw [forIn_collect2 (List.map (fun e => (e.1, e.2)) ((w.store "aol").prefixView [pfx])) (fun e => kOf (compsOf kind e.1))
    (fun e => ((Go.Proto.unmarshal e.2 : Option G).getD default)) _ ?_ ([], [])]
  · simp
  · intro x hx s
    have hx' : x ∈ (w.store "aol").prefixView [pfx] := by simpa using hx
    obtain ⟨comps, hc⟩ := hk x hx'
    obtain ⟨vs, hd', hf⟩ := decodeTyped_split hc
    rw [mustDecode_ok _ _ _ _ vs hd' (hI vs comps hf)]
    simp only [go_eval, mustUnmarshal_ok (hd x.1 x.2 (Map.get_of_mem_sorted hs (Map.mem_prefixView.mp hx'))), compsOf, hc]

theorem getAllTopics_run (w : World) (hwf : WF w) (hk : KeysOK .topic 1 w) :
    aolkeeper.Keeper.GetAllTopics bech w =
      P.ok (((w.store "aol").prefixView [1]).map (fun e => topicOf (compsOf .topic e.1)),
            ((w.store "aol").prefixView [1]).map (fun e => ((Go.Proto.unmarshal e.2 : Option aoltypes.Topic).getD default)), w) :=
  getAll_run _ .topic 1 topicOf (topic_fromBytes bech default) w hwf.sorted hwf.topics hk

theorem getAllOwners_run (w : World) (hwf : WF w) (hk : KeysOK .owner 0 w) :
    aolkeeper.Keeper.GetAllOwners bech w =
      P.ok (((w.store "aol").prefixView [0]).map (fun e => ownerOf (compsOf .owner e.1)),
            ((w.store "aol").prefixView [0]).map (fun e => ((Go.Proto.unmarshal e.2 : Option aoltypes.Owner).getD default)), w) :=
  getAll_run _ .owner 0 ownerOf (owner_fromBytes bech default) w hwf.sorted hwf.owners hk

theorem getAllWriters_run (w : World) (hwf : WF w) (hk : KeysOK .writer 2 w) :
    aolkeeper.Keeper.GetAllWriters bech w =
      P.ok (((w.store "aol").prefixView [2]).map (fun e => writerOf (compsOf .writer e.1)),
            ((w.store "aol").prefixView [2]).map (fun e => ((Go.Proto.unmarshal e.2 : Option aoltypes.Writer).getD default)), w) :=
  getAll_run _ .writer 2 writerOf (writer_fromBytes bech default) w hwf.sorted hwf.writers hk

theorem getAllRecords_run (w : World) (hwf : WF w) (hk : KeysOK .record 3 w) :
    aolkeeper.Keeper.GetAllRecords bech w =
      P.ok (((w.store "aol").prefixView [3]).map (fun e => recordOf (compsOf .record e.1)),
            ((w.store "aol").prefixView [3]).map (fun e => ((Go.Proto.unmarshal e.2 : Option aoltypes.Record).getD default)), w) :=
  getAll_run _ .record 3 recordOf (record_fromBytes bech default) w hwf.sorted hwf.records hk

def enumK {α : Type} (s : Nat) : List α → List (Int × α)
  | [] => []
  | x :: xs => ((s : Int), x) :: enumK (s + 1) xs

theorem enumK_eq {α : Type} (s : Nat) (xs : List α) : enumK s xs = Go.enumFrom s xs := by
  induction xs generalizing s with
  | nil => rfl
  | cons x xs ih => rw [enumK, Go.enumFrom, ih]

/-- one export loop: the keys rendered as strings, each with the value at the same position, `m[k] = v` into the field -/
theorem export_loop {K G S : Type} (str : K → Bytes) (getF : S → Go.GoMap (Option G)) (setF : S → Go.GoMap (Option G) → S)
    (h1 : ∀ s, setF s (getF s) = s) (h2 : ∀ s t, getF (setF s t) = t) (h3 : ∀ s t t', setF (setF s t) t' = setF s t')
    (body : Int × K → Option S → P (ForInStep (Option S))) (allv : List G) (Pk : K → Prop)
    (hb : ∀ (i : Nat) (k : K) (x : G) (g : S), Pk k → Go.idx allv (i : Int) = P.ok x →
      body ((i : Int), k) (some g) = P.ok (.yield (some (setF g (Go.mapSet (getF g) (str k) (some x))))))
    (ks : List K) : (∀ k ∈ ks, Pk k) → ∀ (pre vs : List G), allv = pre ++ vs → ks.length = vs.length → ∀ g : S,
      forIn (enumK pre.length ks) (some g) body =
        P.ok (some (setF g ((ks.zip vs).foldl (fun m e => Go.mapSet m (str e.1) (some e.2)) (getF g)))) := by
  induction ks with
  | nil =>
    intro _ pre vs _ hl g
    cases vs with
    | nil => simp [enumK, h1]
    | cons _ _ => simp at hl
  | cons k ks ih =>
    intro hP pre vs hall hl g
    cases vs with
    | nil => simp at hl
    | cons v vs =>
      simp only [enumK, List.forIn_cons]
      rw [hb pre.length k v g (hP k (by simp)) (hall ▸ idx_append pre v vs)]
      simp only [P.ok_bind]
      have := ih (fun k' hk' => hP k' (List.mem_cons_of_mem _ hk')) (pre ++ [v]) vs (by rw [hall, List.append_assoc]; rfl)
        (by simpa using hl) (setF g (Go.mapSet (getF g) (str k) (some v)))
      simp only [List.length_append, List.length_cons, List.length_nil, Nat.zero_add] at this
      rw [this]
      simp only [List.zip_cons_cons, List.foldl_cons, h2, h3]

def strO (k : aoltypes.OwnerCompositeKey) : Bytes := CompKey.encodeToString (toCodec bech) .owner [k.OwnerAddress]
def strT (k : aoltypes.TopicCompositeKey) : Bytes := CompKey.encodeToString (toCodec bech) .topic [k.OwnerAddress, k.TopicName]
def strW (k : aoltypes.WriterCompositeKey) : Bytes :=
  CompKey.encodeToString (toCodec bech) .writer [k.OwnerAddress, k.TopicName, k.WriterAddress]
def strR (k : aoltypes.RecordCompositeKey) : Bytes :=
  CompKey.encodeToString (toCodec bech) .record [k.OwnerAddress, k.TopicName, be64 k.Offset]

theorem encO (k : aoltypes.OwnerCompositeKey) :
    compkey.EncodeToString (aoltypes.OwnerCompositeKey.asCompositeKey bech) (some k) [47] = P.ok (strO bech k) :=
  encodeToString_run _ _ _ (owner_strings bech k)
theorem encT (k : aoltypes.TopicCompositeKey) :
    compkey.EncodeToString (aoltypes.TopicCompositeKey.asCompositeKey bech) (some k) [47] = P.ok (strT bech k) :=
  encodeToString_run _ _ _ (topic_strings bech k)
theorem encW (k : aoltypes.WriterCompositeKey) :
    compkey.EncodeToString (aoltypes.WriterCompositeKey.asCompositeKey bech) (some k) [47] = P.ok (strW bech k) :=
  encodeToString_run _ _ _ (writer_strings bech k)
theorem encR (k : aoltypes.RecordCompositeKey) (hk : k.Offset < 2 ^ 64) :
    compkey.EncodeToString (aoltypes.RecordCompositeKey.asCompositeKey bech) (some k) [47] = P.ok (strR bech k) :=
  encodeToString_run _ _ _ (record_strings bech k hk)

theorem recordOf_lt (comps : List Bytes) : (recordOf comps).Offset < 2 ^ 64 := by
  unfold recordOf
  split
  · rename_i a t n
    cases hf : fromBe64 n with
    | none => simp
    | some off =>
      have := fromBe64_lt hf
      simp
      omega
  · simp [default]
    decide

/-- the map one loop builds by `m[str k] = v` -/
def expMap {K G : Type} (str : K → Bytes) (ks : List K) (vs : List G) : Go.GoMap (Option G) :=
  (ks.zip vs).foldl (fun m e => Go.mapSet m (str e.1) (some e.2)) []

abbrev keysO (w : World) := ((w.store "aol").prefixView [0]).map (fun e => ownerOf (compsOf .owner e.1))
abbrev keysT (w : World) := ((w.store "aol").prefixView [1]).map (fun e => topicOf (compsOf .topic e.1))
abbrev keysW (w : World) := ((w.store "aol").prefixView [2]).map (fun e => writerOf (compsOf .writer e.1))
abbrev keysR (w : World) := ((w.store "aol").prefixView [3]).map (fun e => recordOf (compsOf .record e.1))
abbrev valsOf (G : Type) [Inhabited G] [Go.Proto G] (pfx : UInt8) (w : World) : List G :=
  ((w.store "aol").prefixView [pfx]).map (fun e => ((Go.Proto.unmarshal e.2 : Option G).getD default))

/-- one stage of `ExportGenesis`: the `GetAll…` call, its loop, the rest; `Pk` is a side condition on the keys, which
only records need (`Offset < 2 ^ 64`) -/
theorem export_stage {K G S α : Type} (str : K → Bytes) (getF : S → Go.GoMap (Option G))
    (setF : S → Go.GoMap (Option G) → S)
    (h1 : ∀ s, setF s (getF s) = s) (h2 : ∀ s t, getF (setF s t) = t) (h3 : ∀ s t t', setF (setF s t) t' = setF s t')
    (w : World) (getAll : P (List K × List G × World)) (ks : List K) (vs : List G) (hget : getAll = P.ok (ks, vs, w))
    (body : List K × List G × World → Int × K → Option S → P (ForInStep (Option S))) (Pk : K → Prop)
    (hb : ∀ (i : Nat) (k : K) (x : G) (g : S), Pk k → Go.idx vs (i : Int) = P.ok x →
      body (ks, vs, w) ((i : Int), k) (some g) = P.ok (.yield (some (setF g (Go.mapSet (getF g) (str k) (some x))))))
    (hP : ∀ k ∈ ks, Pk k) (hl : ks.length = vs.length) (g : S) (rest : Option S → List K × List G × World → P α) :
    (getAll >>= fun t => forIn (Go.enum t.1) (some g) (body t) >>= fun g' => rest g' t) =
      rest (some (setF g ((ks.zip vs).foldl (fun m e => Go.mapSet m (str e.1) (some e.2)) (getF g)))) (ks, vs, w) := by
  subst hget
  have := export_loop str getF setF h1 h2 h3 _ vs Pk hb ks hP [] vs rfl hl g
  simp only [P.ok_bind, Go.enum_eq, ← enumK_eq, List.length_nil] at this ⊢
  rw [this]
  rfl

theorem exportGenesis_run (w : World) (hwf : WF w) (h0 : KeysOK .owner 0 w) (h1 : KeysOK .topic 1 w)
    (h2 : KeysOK .writer 2 w) (h3 : KeysOK .record 3 w) :
    aol.ExportGenesis bech w = P.ok (some
      { Owners := expMap (strO bech) (keysO w) (valsOf aoltypes.Owner 0 w),
        Topics := expMap (strT bech) (keysT w) (valsOf aoltypes.Topic 1 w),
        Writers := expMap (strW bech) (keysW w) (valsOf aoltypes.Writer 2 w),
        Records := expMap (strR bech) (keysR w) (valsOf aoltypes.Record 3 w) }, w) := by
  unfold aol.ExportGenesis aoltypes.DefaultGenesis
  -- the opening `pure genesis >>= …` rewritten away, the first stage meets `export_stage` in the shape of the other three
  rw [P.pure_eq, P.ok_bind]
  refine (export_stage (strO bech) (·.Owners) (fun s t => { s with Owners := t }) (fun _ => rfl) (fun _ _ => rfl)
    (fun _ _ _ => rfl) w _ _ _ (getAllOwners_run bech w hwf h0) _ (fun _ => True) ?_ (fun _ _ => trivial)
    (by simp) _ _).trans ?_
  · intro i k x g _ hi
    simp only [go_eval, encO bech k, hi]
  refine (export_stage (strT bech) (·.Topics) (fun s t => { s with Topics := t }) (fun _ => rfl) (fun _ _ => rfl)
    (fun _ _ _ => rfl) w _ _ _ (getAllTopics_run bech w hwf h1) _ (fun _ => True) ?_ (fun _ _ => trivial)
    (by simp) _ _).trans ?_
  · intro i k x g _ hi
    simp only [go_eval, encT bech k, hi]
  refine (export_stage (strW bech) (·.Writers) (fun s t => { s with Writers := t }) (fun _ => rfl) (fun _ _ => rfl)
    (fun _ _ _ => rfl) w _ _ _ (getAllWriters_run bech w hwf h2) _ (fun _ => True) ?_ (fun _ _ => trivial)
    (by simp) _ _).trans ?_
  · intro i k x g _ hi
    simp only [go_eval, encW bech k, hi]
  refine (export_stage (strR bech) (·.Records) (fun s t => { s with Records := t }) (fun _ => rfl) (fun _ _ => rfl)
    (fun _ _ _ => rfl) w _ _ _ (getAllRecords_run bech w hwf h3) _ (fun k => k.Offset < 2 ^ 64) ?_ ?_
    (by simp) _ _).trans ?_
  · intro i k x g hk hi
    simp only [go_eval, encR bech k hk, hi]
  · intro k hk
    obtain ⟨e, _, rfl⟩ := List.mem_map.mp hk
    exact recordOf_lt _
  rfl

theorem expMap_ent {K G : Type} (str : K → Bytes) (ks : List K) (vs : List G)
    (hn : ((ks.zip vs).map (fun e => str e.1)).Nodup) :
    expMap str ks vs = ent ((ks.zip vs).map fun e => (str e.1, e.2)) := by
  unfold expMap ent
  have := fold_mapSet (fun e : K × G => (str e.1, some e.2)) (ks.zip vs) hn [] (by intro k _; simp)
  simpa [List.map_map, Function.comp_def] using this

theorem exportTable_ok {V : Type} (c : CompKey.AddrCodec) (k : CompKey.Kind) (m : Map V)
    (h : ∀ e ∈ m, ∃ comps, CompKey.decodeTyped k e.1 = .ok comps) :
    Genesis.exportTable c k m = .ok (m.map fun e => (CompKey.encodeToString c k (compsOf k e.1), e.2)) := by
  induction m with
  | nil => rfl
  | cons e m ih =>
    obtain ⟨comps, hc⟩ := h e List.mem_cons_self
    rw [Genesis.exportTable_cons, ih fun e' he' => h e' (List.mem_cons_of_mem _ he'), List.map_cons, compsOf, hc]
    rfl

/-- every key under the prefix is `encode comps` of a tuple `C18.Admitted` admits: the raw-store form of
`C08.KeysAdmitted` (`admittedAt_iff`) -/
def AdmittedAt (kind : CompKey.Kind) (pfx : UInt8) (w : World) : Prop :=
  ∀ e ∈ (w.store "aol").prefixView [pfx], ∃ comps, CompKey.encode comps = some e.1 ∧ C18.Admitted kind comps ∧
    CompKey.decodeTyped kind e.1 = .ok comps

theorem keysOK_of_admitted {kind : CompKey.Kind} {pfx : UInt8} {w : World} (h : AdmittedAt kind pfx w) : KeysOK kind pfx w :=
  fun e he => let ⟨c, _, _, hd⟩ := h e he; ⟨c, hd⟩

theorem strs_nodup (hc : (toCodec bech).Lawful) (kind : CompKey.Kind) (pfx : UInt8) (w : World) (hs : (w.store "aol").Sorted)
    (ha : AdmittedAt kind pfx w) :
    (((w.store "aol").prefixView [pfx]).map
      (fun e => CompKey.encodeToString (toCodec bech) kind (compsOf kind e.1))).Nodup := by
  have hsp := Map.prefixView_sorted hs [pfx]
  unfold Map.Sorted Map.keys at hsp
  unfold List.Nodup
  rw [List.pairwise_map] at hsp ⊢
  -- the keys ascend, so two entries have different keys; the string determines the components, those the key
  refine hsp.imp_of_mem fun {e1 e2} h1 h2 hlt heq => Bytes.lt_ne hlt ?_
  obtain ⟨c1, he1, ha1, hd1⟩ := ha e1 h1
  obtain ⟨c2, he2, ha2, hd2⟩ := ha e2 h2
  simp only [compsOf, hd1, hd2] at heq
  have r1 := C18.string_roundtrip_admitted (toCodec bech) hc kind c1 ha1
  rw [heq, C18.string_roundtrip_admitted (toCodec bech) hc kind c2 ha2] at r1
  cases r1
  rw [he1] at he2
  exact Option.some.inj he2

theorem strO_of (bz : Bytes) (comps : List Bytes) (h : CompKey.decodeTyped .owner bz = .ok comps) :
    strO bech (ownerOf comps) = CompKey.encodeToString (toCodec bech) .owner comps := by
  obtain ⟨vs, _, hf⟩ := decodeTyped_split h
  obtain ⟨o, _, rfl, _⟩ := owner_slices hf
  rfl

theorem strT_of (bz : Bytes) (comps : List Bytes) (h : CompKey.decodeTyped .topic bz = .ok comps) :
    strT bech (topicOf comps) = CompKey.encodeToString (toCodec bech) .topic comps := by
  obtain ⟨vs, _, hf⟩ := decodeTyped_split h
  obtain ⟨o, t, _, rfl, _⟩ := topic_slices hf
  rfl

theorem strW_of (bz : Bytes) (comps : List Bytes) (h : CompKey.decodeTyped .writer bz = .ok comps) :
    strW bech (writerOf comps) = CompKey.encodeToString (toCodec bech) .writer comps := by
  obtain ⟨vs, _, hf⟩ := decodeTyped_split h
  obtain ⟨o, t, x, _, rfl, _⟩ := writer_slices hf
  rfl

theorem strR_of (bz : Bytes) (comps : List Bytes) (h : CompKey.decodeTyped .record bz = .ok comps) :
    strR bech (recordOf comps) = CompKey.encodeToString (toCodec bech) .record comps := by
  obtain ⟨vs, _, hf⟩ := decodeTyped_split h
  obtain ⟨o, t, n, off, _, rfl, _, _, hfb⟩ := record_slices hf
  rw [recordOf_be64 o t (fromBe64_lt hfb)]
  rfl

/-- what the export writes for one table: the key string and decoded value of every entry under the prefix -/
def expList (G : Type) [Inhabited G] [Go.Proto G] (kind : CompKey.Kind) (pfx : UInt8) (w : World) : List (Bytes × G) :=
  ((w.store "aol").prefixView [pfx]).map
    (fun e => (CompKey.encodeToString (toCodec bech) kind (compsOf kind e.1), ((Go.Proto.unmarshal e.2 : Option G).getD default)))

theorem expMap_list {K G : Type} [Inhabited G] [Go.Proto G] (hc : (toCodec bech).Lawful) (kind : CompKey.Kind) (pfx : UInt8)
    (w : World) (hs : (w.store "aol").Sorted) (ha : AdmittedAt kind pfx w) (str : K → Bytes) (kOf : List Bytes → K)
    (hstr : ∀ bz comps, CompKey.decodeTyped kind bz = .ok comps →
      str (kOf comps) = CompKey.encodeToString (toCodec bech) kind comps) :
    expMap str (((w.store "aol").prefixView [pfx]).map (fun e => kOf (compsOf kind e.1)))
      (((w.store "aol").prefixView [pfx]).map (fun e => ((Go.Proto.unmarshal e.2 : Option G).getD default))) =
    ent (expList bech G kind pfx w) := by
  have hstr' : ∀ e ∈ (w.store "aol").prefixView [pfx],
      str (kOf (compsOf kind e.1)) = CompKey.encodeToString (toCodec bech) kind (compsOf kind e.1) := by
    intro e he
    obtain ⟨c, _, _, hd⟩ := ha e he
    have : compsOf kind e.1 = c := by simp only [compsOf, hd]
    rw [this]
    exact hstr e.1 c hd
  rw [expMap_ent, List.zip_map']
  · unfold expList
    rw [List.map_map]
    exact congrArg ent (List.map_congr_left fun e he => by simp only [Function.comp_apply, hstr' e he])
  · rw [List.zip_map', List.map_map]
    have := strs_nodup bech hc kind pfx w hs ha
    rwa [← List.map_congr_left hstr'] at this

theorem exportGenesis_ent (hc : (toCodec bech).Lawful) (w : World) (hwf : WF w)
    (a0 : AdmittedAt .owner 0 w) (a1 : AdmittedAt .topic 1 w) (a2 : AdmittedAt .writer 2 w) (a3 : AdmittedAt .record 3 w) :
    aol.ExportGenesis bech w = P.ok (some
      { Owners := ent (expList bech aoltypes.Owner .owner 0 w), Topics := ent (expList bech aoltypes.Topic .topic 1 w),
        Writers := ent (expList bech aoltypes.Writer .writer 2 w), Records := ent (expList bech aoltypes.Record .record 3 w) }, w) := by
  rw [exportGenesis_run bech w hwf (keysOK_of_admitted a0) (keysOK_of_admitted a1)
    (keysOK_of_admitted a2) (keysOK_of_admitted a3)]
  rw [expMap_list bech hc .owner 0 w hwf.sorted a0 (strO bech) ownerOf (strO_of bech),
    expMap_list bech hc .topic 1 w hwf.sorted a1 (strT bech) topicOf (strT_of bech),
    expMap_list bech hc .writer 2 w hwf.sorted a2 (strW bech) writerOf (strW_of bech),
    expMap_list bech hc .record 3 w hwf.sorted a3 (strR bech) recordOf (strR_of bech)]

theorem exportTable_abs {G V : Type} [Inhabited G] [Go.Proto G] (conv : G → V) (kind : CompKey.Kind) (pfx : UInt8) (w : World)
    (ha : AdmittedAt kind pfx w) :
    Genesis.exportTable (toCodec bech) kind (table conv (w.store "aol") [pfx]) =
      .ok ((expList bech G kind pfx w).map fun e => (e.1, conv e.2)) := by
  rw [table_eq, exportTable_ok]
  · unfold expList
    simp [List.map_map, Function.comp_def]
  · intro e he
    obtain ⟨e0, he0, rfl⟩ := List.mem_map.mp he
    exact keysOK_of_admitted ha e0 he0

theorem admittedAt_iff {G V : Type} [Inhabited G] [Go.Proto G] (conv : G → V) (kind : CompKey.Kind) (pfx : UInt8) (w : World) :
    AdmittedAt kind pfx w ↔ C08.KeysAdmitted kind (table conv (w.store "aol") [pfx]) := by
  unfold C08.KeysAdmitted AdmittedAt
  rw [table_keys]
  exact ⟨fun ha key hkey => by
    obtain ⟨e, he, rfl⟩ := List.mem_map.mp hkey
    exact ha e he, fun h e he => h e.1 (List.mem_map_of_mem he)⟩

theorem keysAdmitted_abs {G V : Type} [Inhabited G] [Go.Proto G] (conv : G → V) (kind : CompKey.Kind) (pfx : UInt8) (w : World)
    (ha : AdmittedAt kind pfx w) : C08.KeysAdmitted kind (table conv (w.store "aol") [pfx]) :=
  (admittedAt_iff conv kind pfx w).mp ha

/-- **C08 for x/aol on the translated code.**  For every well-formed world whose store keys are encodings of admitted
tuples (every world reachable by validated messages), and any lawful address codec: `ExportGenesis` succeeds and leaves
the world as it is, and `InitGenesis` of what it returned, on the empty store — in whatever order the four maps are
visited — succeeds and leaves a well-formed world that stands for the same AOL state: every owner, topic, writer and
record with its counters, monikers, descriptions, timestamps. -/
theorem genesis_roundtrip (hc : (toCodec bech).Lawful) (w : World) (hwf : WF w)
    (a0 : AdmittedAt .owner 0 w) (a1 : AdmittedAt .topic 1 w) (a2 : AdmittedAt .writer 2 w) (a3 : AdmittedAt .record 3 w) :
    ∃ g w', aol.ExportGenesis bech w = P.ok (some g, w) ∧ aol.InitGenesis bech g ({} : World) = P.ok w' ∧
      WF w' ∧ abs w' = abs w := by
  have hexp := exportGenesis_ent bech hc w hwf a0 a1 a2 a3
  have hmodel : Genesis.aolExport (toCodec bech) (abs w) =
      .ok (toG (expList bech aoltypes.Owner .owner 0 w) (expList bech aoltypes.Topic .topic 1 w)
        (expList bech aoltypes.Writer .writer 2 w) (expList bech aoltypes.Record .record 3 w)) := by
    unfold Genesis.aolExport abs absMap toG
    simp only [exportTable_abs bech toOwner .owner 0 w a0, exportTable_abs bech toTopic .topic 1 w a1,
      exportTable_abs bech toWriter .writer 2 w a2, exportTable_abs bech toRecord .record 3 w a3]
    rfl
  obtain ⟨w', hi, hwf', habs⟩ := initGenesis_of_export bech hc (abs w)
    (table_sorted toOwner hwf.sorted) (table_sorted toTopic hwf.sorted)
    (table_sorted toWriter hwf.sorted) (table_sorted toRecord hwf.sorted)
    (keysAdmitted_abs toOwner .owner 0 w a0) (keysAdmitted_abs toTopic .topic 1 w a1)
    (keysAdmitted_abs toWriter .writer 2 w a2) (keysAdmitted_abs toRecord .record 3 w a3)
    _ _ _ _ hmodel
  exact ⟨_, w', hexp, hi, hwf', habs⟩

/-- the premises are satisfiable by a non-empty world: one owner entry under a 20-byte address -/
example : ∃ w : World, (w.store "aol") ≠ [] ∧ WF w ∧ AdmittedAt .owner 0 w ∧ AdmittedAt .topic 1 w ∧
    AdmittedAt .writer 2 w ∧ AdmittedAt .record 3 w := by
  let a : Bytes := List.replicate 20 1
  let k : Bytes := 20 :: a
  let v : Bytes := Go.Proto.marshal (default : aoltypes.Owner)
  have hs : Map.Sorted ([] : Map Bytes) := List.Pairwise.nil
  have hm : (({} : World).setStore "aol" (Map.set [] ([0] ++ k) v)).store "aol" = Map.set [] ([0] ++ k) v :=
    store_setStore _ _ _
  have hother : ∀ p : UInt8, p ≠ 0 → (Map.set ([] : Map Bytes) ([0] ++ k) v).prefixView [p] = [] := fun p hp =>
    Map.prefixView_set_other [] hs [p] _ v (pfx_ne k hp)
  have hwf : WF (({} : World).setStore "aol" (Map.set [] ([0] ++ k) v)) :=
    (wf_setStore _ _).mpr (wf_set_owner [] Aol.wf_empty k default)
  refine ⟨_, by rw [hm]; exact List.cons_ne_nil _ _, hwf, ?_, ?_, ?_, ?_⟩
  · intro e he
    rw [hm, Map.prefixView_set_same [] hs [0] k v] at he
    cases List.mem_singleton.mp he
    have he : CompKey.encode [a] = some k := rfl
    exact ⟨[a], he, rfl, C18.decodeTyped_of_admitted he rfl⟩
  all_goals
    intro e he
    rw [hm, hother _ (by decide)] at he
    cases he

end
end Panacea.Refine.AolExport
