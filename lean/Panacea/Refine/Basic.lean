import Panacea.Refine.Attr
import Panacea.Model.Outcome
import Panacea.Go.Lib
/-!
# Stepping through translated code

What a refinement proof needs of the Go subset before it looks at a particular function: the `go_eval` rewrite set, and
closed forms for what the translator emits (a `for … range` loop that runs to the end is a fold, one that may `return`
from its body a first-match search).  Helpers are stated in `go_eval`-normal form (`P.ok`, not `pure`).  Names in Refine:
`f_run` the translated `f` in closed form over the raw world; `f_refines` equal to the model's function read through a
result map, or related by a simulation; `_abs` the abstraction commutes; `_vb` `ValidateBasic`; `_perm` the refusal of a
non-owner on the keeper call alone.
-/
namespace Panacea.Go
open Panacea

protected theorem deref_some {α : Type} (site : String) (a : α) : deref site (some a) = P.ok a := rfl

protected theorem deref_bind {α β : Type} (site : String) (a : α) (f : α → P β) : (deref site (some a) >>= f) = f a :=
  rfl

/- `P.ok_bind` and `deref_bind` are tried before the continuation is visited: otherwise `simp` walks the body of every
`let d ← deref p` once with `d` opaque and once more after `d` is known, n times for n dereferences in a row.  Likewise
core's `reduceIte` decides the condition of an `if` first and does not visit the branch that is not taken (the rest of the
function, after an early `return`). -/
attribute [go_eval ↓] P.ok_bind Go.deref_bind
attribute [go_eval_proc ↓] reduceIte
attribute [go_eval] P.pure_eq P.panic_bind P.map_ok P.map_panic Go.deref_some
  Outcome.pure_eq Outcome.ok_bind Outcome.err_bind Outcome.panic_bind
  Option.isNone_none Option.isNone_some Option.isSome_none Option.isSome_some Option.map_some Option.map_none
  Bool.not_true Bool.not_false Bool.false_eq_true Bool.true_eq_false decide_true decide_false decide_eq_true_eq
  if_true if_false

theorem wrap_eq (e : Err) : wrap e = e := rfl

attribute [go_eval] wrap_eq

theorem ite_ok {α : Type} (c : Prop) [Decidable c] (a b : α) :
    (if c then P.ok a else P.ok b) = P.ok (if c then a else b) := by
  split <;> rfl

theorem rel_ite {α β : Type} {R : α → β → Prop} {c : Prop} [Decidable c] {a a' : α} {b b' : β}
    (h : c → R a b) (h' : ¬ c → R a' b') : R (if c then a else a') (if c then b else b') := by
  by_cases hc : c
  · rw [if_pos hc, if_pos hc]
    exact h hc
  · rw [if_neg hc, if_neg hc]
    exact h' hc

/-- two calls of one join point merged into one, on a conditional argument -/
theorem ite_cont {α β : Type} (c : Prop) [Decidable c] (k : Option α → β) (a b : α) :
    (if c then k (some a) else k (some b)) = k (some (if c then a else b)) := by
  split <;> rfl

/-- `b := x; if !b { b = y }; if b { … }` tests `x || y` -/
theorem ite_not_or {α : Type} (a b : Bool) (x y : α) :
    (if (!a) = true then (if b = true then x else y) else (if a = true then x else y)) =
      if a = true then x else if b = true then x else y := by
  cases a <;> rfl

theorem len_eq_zero {α : Type} (l : List α) : decide (len l = 0) = l.isEmpty := by
  cases l with
  | nil => rfl
  | cons a t => exact decide_eq_false (by simp only [len, List.length_cons]; omega)

theorem not_isEmpty {α : Type} [DecidableEq α] (l : List α) : (!l.isEmpty) = decide (l ≠ []) := by cases l <;> rfl

theorem u64add_one (a : Nat) : u64add a 1 = wrap64 (a + 1) := rfl

theorem u64sub_one (a : Nat) : u64sub a 1 = decU64 a := by
  unfold u64sub decU64 two64
  rw [Nat.mod_eq_of_lt (by decide : 1 < 18446744073709551616), Nat.add_sub_assoc (by decide)]

theorem acc_ok (bech : Bech32) (a : Bytes) : (accAddressFromBech32 bech a).2.isNone = (bech.dec a).isSome := by
  unfold accAddressFromBech32
  cases bech.dec a <;> rfl

theorem acc_fst (bech : Bech32) (a : Bytes) : (accAddressFromBech32 bech a).1 = (bech.dec a).getD [] := by
  unfold accAddressFromBech32
  cases bech.dec a <;> rfl

/-- for code that uses both components; where it only tests `.2.isNone` and passes `.1` on, `acc_ok`/`acc_fst` rewrite
in place -/
theorem acc_cases (bech : Bech32) (s : Bytes) :
    (∃ a, bech.dec s = some a ∧ accAddressFromBech32 bech s = (a, none)) ∨
    (bech.dec s = none ∧ accAddressFromBech32 bech s = ([], some "bech32")) := by
  unfold accAddressFromBech32
  cases bech.dec s with
  | none => exact .inr ⟨rfl, rfl⟩
  | some a => exact .inl ⟨a, rfl, rfl⟩

theorem parse_ok (s : Bytes) : (parseUint64 s).2.isNone = (CompKey.parseUint64 s).isSome := by
  unfold parseUint64
  cases CompKey.parseUint64 s <;> rfl

theorem parse_fst (s : Bytes) : (parseUint64 s).1 = (CompKey.parseUint64 s).getD 0 := by
  unfold parseUint64
  cases CompKey.parseUint64 s <;> rfl

theorem verifyAddr_ok (b : Bytes) (h : CompKey.addrOk b = true) : verifyAddressFormat b = none := by
  unfold CompKey.addrOk at h
  unfold verifyAddressFormat
  simp only [Bool.and_eq_true, decide_eq_true_eq] at h
  rw [if_neg (by omega), if_neg (by omega)]

theorem indexByte_nonneg (s : Bytes) (c : UInt8) : decide (indexByte s c ≥ 0) = s.contains c := by
  unfold indexByte
  rw [show s.contains c = (s.idxOf? c).isSome by rw [Bool.eq_iff_iff, List.contains_iff_mem, List.isSome_idxOf?]]
  cases s.idxOf? c with
  | none => rfl
  | some i => exact decide_eq_true (Int.natCast_nonneg i)

theorem splitByte_eq (s : Bytes) : splitByte s 47 = CompKey.splitSlash s := by
  have h : ∀ (s acc : Bytes), splitByteAux 47 acc s = CompKey.splitSlashAux acc s := by
    intro s
    induction s with
    | nil =>
      intro acc
      rfl
    | cons c cs ih =>
      intro acc
      simp only [splitByteAux, CompKey.splitSlashAux, CompKey.slash, ih]
      rfl
  exact h s []

/-- a proof device, not Go semantics -/
def classBytes (rs : List (Nat × Nat)) : Bytes :=
  rs.flatMap fun r => (List.range' r.1 (r.2 + 1 - r.1)).map UInt8.ofNat

theorem inRanges_eq_contains (rs : List (Nat × Nat)) (h : ∀ r ∈ rs, r.2 < 256) (b : UInt8) :
    inRanges rs b = (classBytes rs).contains b := by
  rw [Bool.eq_iff_iff]
  simp only [inRanges, classBytes, List.any_eq_true, Bool.and_eq_true, decide_eq_true_eq, List.contains_iff_mem,
    List.mem_flatMap, List.mem_map, List.mem_range'_1]
  constructor
  · rintro ⟨r, hr, h1, h2⟩
    exact ⟨r, hr, b.toNat, ⟨h1, by omega⟩, UInt8.ofNat_toNat⟩
  · rintro ⟨r, hr, k, ⟨h1, h2⟩, rfl⟩
    have := h r hr
    have hk : (UInt8.ofNat k).toNat = k := by rw [UInt8.toNat_ofNat', Nat.mod_eq_of_lt (by omega)]
    exact ⟨r, hr, by omega, by omega⟩

theorem reMatch_plus_cls (rs : List (Nat × Nat)) (s : Bytes) :
    reMatch (.cat [.bot, .plus (.cls rs), .eot]) s = P.ok (!s.isEmpty && s.all (inRanges rs)) := rfl

theorem reMatch_plus_ncls (rs : List (Nat × Nat)) (s : Bytes) :
    reMatch (.cat [.bot, .plus (.ncls rs), .eot]) s = P.ok (!s.isEmpty && s.all fun b => !inRanges rs b) := rfl

theorem reMatch_star_cls (rs : List (Nat × Nat)) (s : Bytes) :
    reMatch (.cat [.bot, .star (.cls rs), .eot]) s = P.ok (s.all (inRanges rs)) := rfl

theorem reMatch_lit_rep_cls (p : Bytes) (rs : List (Nat × Nat)) (m n : Nat) (s : Bytes) :
    reMatch (.cat [.bot, .lit p, .rep (.cls rs) m n, .eot]) s =
      P.ok (p.isPrefixOf s && decide (m ≤ s.length - p.length) && decide (s.length - p.length ≤ n) &&
        (s.drop p.length).all (inRanges rs)) := rfl

attribute [go_eval] reMatch_plus_cls reMatch_plus_ncls reMatch_star_cls reMatch_lit_rep_cls

/-- a proof device: `Go.enum` by recursion, from any first index -/
def enumFrom {α : Type} (s : Nat) : List α → List (Int × α)
  | [] => []
  | x :: xs => ((s : Int), x) :: enumFrom (s + 1) xs

theorem enum_eq {α : Type} (xs : List α) : enum xs = enumFrom 0 xs := by
  have h : ∀ (xs : List α) (s : Nat),
      ((List.range' s xs.length).zip xs).map (fun p => ((p.1 : Int), p.2)) = enumFrom s xs := by
    intro xs
    induction xs with
    | nil => intro s; simp [enumFrom]
    | cons x xs ih =>
      intro s
      simp [enumFrom, List.range'_succ, ih (s + 1)]
  unfold enum
  rw [List.range_eq_range']
  exact h xs 0

/-- `I`: what is known of the state on the way (e.g. that its world component is the one the loop started with) -/
theorem forIn_fold {α σ : Type} (l : List α) (f : σ → α → σ) (I : σ → Prop) (body : α → σ → P (ForInStep σ))
    (hb : ∀ x ∈ l, ∀ s, I s → body x s = P.ok (.yield (f s x)) ∧ I (f s x)) :
    ∀ s, I s → forIn l s body = P.ok (l.foldl f s) := by
  induction l with
  | nil => intro s _; rfl
  | cons x l ih =>
    intro s hs
    obtain ⟨h1, h2⟩ := hb x (by simp) s hs
    simp only [List.forIn_cons, List.foldl_cons, h1, P.ok_bind]
    exact ih (fun y hy => hb y (List.mem_cons_of_mem _ hy)) _ h2

/-- `g`: how the caller wrapped the list (pointers: `some`; the entries of a genesis map: `fun e => (e.1, some e.2)`). -/
theorem forIn_foldlM_map {α β σ : Type} (g : α → β) (l : List α) (step : σ → α → P σ) (body : β → σ → P (ForInStep σ))
    (hb : ∀ x ∈ l, ∀ s, body (g x) s = step s x >>= fun s' => P.ok (.yield s')) :
    ∀ s, forIn (l.map g) s body = l.foldlM step s := by
  induction l with
  | nil => intro s; rfl
  | cons x l ih =>
    intro s
    simp only [List.map_cons, List.forIn_cons, List.foldlM_cons, hb x (by simp) s]
    cases step s x with
    | panic e => rfl
    | ok s' => exact ih (fun y hy => hb y (List.mem_cons_of_mem _ hy)) s'

/-- `for x in l { acc = append(acc, g(x)...) }`; `mk`: where the accumulator sits in the loop state (`id`; `(a, ·)` beside a
loop variable `a` that the body leaves as it is) -/
theorem forIn_appendAll {α β σ : Type} (mk : List β → σ) (l : List α) (g : α → List β) (body : α → σ → P (ForInStep σ))
    (hb : ∀ x ∈ l, ∀ acc, body x (mk acc) = P.ok (.yield (mk (acc ++ g x)))) :
    ∀ acc, forIn l (mk acc) body = P.ok (mk (acc ++ l.flatMap g)) := by
  induction l with
  | nil =>
    intro acc
    simp only [List.forIn_nil, List.flatMap_nil, List.append_nil]; rfl
  | cons x l ih =>
    intro acc
    simp only [List.forIn_cons, hb x (by simp) acc, P.ok_bind, ih (fun y hy => hb y (List.mem_cons_of_mem _ hy)),
      List.flatMap_cons, List.append_assoc]

/-- `for x in l { if !ok(x) { return … }; acc = append(acc, f(x)) }` when every element is fine -/
theorem forIn_collect {α β ρ : Type} (l : List α) (f : α → β)
    (body : α → (Option ρ × List β) → P (ForInStep (Option ρ × List β)))
    (hb : ∀ x ∈ l, ∀ acc, body x (none, acc) = P.ok (.yield (none, acc ++ [f x]))) (acc : List β) :
    forIn l ((none : Option ρ), acc) body = P.ok (none, acc ++ l.map f) := by
  rw [forIn_appendAll (none, ·) l (fun x => [f x]) body hb, List.map_eq_flatMap]

/-- `for x in l { as = append(as, f(x)); bs = append(bs, g(x)) }` -/
theorem forIn_collect2 {α β γ : Type} (l : List γ) (f : γ → α) (g : γ → β)
    (body : γ → List α × List β → P (ForInStep (List α × List β)))
    (hb : ∀ x ∈ l, ∀ s, body x s = P.ok (.yield (s.1 ++ [f x], s.2 ++ [g x]))) :
    ∀ s, forIn l s body = P.ok (s.1 ++ l.map f, s.2 ++ l.map g) := by
  intro s
  rw [forIn_fold l (fun s x => (s.1 ++ [f x], s.2 ++ [g x])) (fun _ => True) body
    (fun x hx s _ => ⟨hb x hx s, trivial⟩) s trivial]
  clear hb
  induction l generalizing s with
  | nil => simp
  | cons x l ih => simp [ih]

/-- `for x in l { if p(x) { acc = append(acc, x) } }` -/
theorem forIn_filter {α : Type} (l : List α) (p : α → Bool) (body : α → List α → P (ForInStep (List α)))
    (hb : ∀ x ∈ l, ∀ acc, body x acc = P.ok (.yield (if p x then acc ++ [x] else acc))) :
    ∀ acc, forIn l acc body = P.ok (acc ++ l.filter p) := by
  induction l with
  | nil =>
    intro acc
    simp only [List.forIn_nil, List.filter_nil, List.append_nil]; rfl
  | cons x l ih =>
    intro acc
    simp only [List.forIn_cons, hb x (by simp) acc, P.ok_bind, ih (fun y hy => hb y (List.mem_cons_of_mem _ hy)),
      List.filter_cons]
    cases p x <;> simp

/-- `for x in l { if r, found := g(x); found { return r } }` -/
theorem forIn_find {α ρ : Type} (l : List α) (g : α → Option ρ)
    (body : α → (Option ρ × Unit) → P (ForInStep (Option ρ × Unit)))
    (hb : ∀ x ∈ l, body x (none, ()) = P.ok (match g x with
      | some r => .done (some r, ())
      | none => .yield (none, ()))) :
    forIn l ((none : Option ρ), ()) body = P.ok (l.findSome? g, ()) := by
  induction l with
  | nil => rfl
  | cons x l ih =>
    simp only [List.forIn_cons, hb x (by simp), List.findSome?_cons]
    cases g x with
    | some r => rfl
    | none => exact ih (fun y hy => hb y (List.mem_cons_of_mem _ hy))

/-- the body of `for … { if c { return r } }` -/
theorem return_if {ρ : Type} {c : Prop} [Decidable c] {r : ρ} :
    (if c then (P.ok (ForInStep.done (some r, ())) : P (ForInStep (Option ρ × Unit))) else P.ok (.yield (none, ()))) =
      P.ok (match (if c then some r else none) with
        | some r => .done (some r, ())
        | none => .yield (none, ())) := by
  split <;> rfl

theorem findSome?_not {α : Type} (l : List α) (p : α → Bool) :
    l.findSome? (fun x => if p x then none else some false) = if l.all p then none else some false := by
  induction l with
  | nil => rfl
  | cons x l ih => cases hp : p x <;> simp [hp, ih]

/-- the body of `for … { if !ok { return false } }` once `ok` is known -/
theorem stop_unless {t : Bool} :
    (if (!t) = true then (P.ok (ForInStep.done (some false, ())) : P (ForInStep (Option Bool × Unit)))
      else P.ok (ForInStep.yield (none, ()))) =
    P.ok (if t = true then .yield (none, ()) else .done (some false, ())) := by
  cases t <;> rfl

/-- `for x in l { if !p(x) { return false } }`, followed by the rest `k` of the function -/
theorem forIn_all_bind {α β : Type} (l : List α) (p : α → Bool)
    (body : α → (Option Bool × Unit) → P (ForInStep (Option Bool × Unit)))
    (hb : ∀ x ∈ l, body x (none, ()) = P.ok (if p x then .yield (none, ()) else .done (some false, ())))
    (k : Option Bool × Unit → P β) :
    forIn l ((none : Option Bool), ()) body >>= k = if l.all p then k (none, ()) else k (some false, ()) := by
  rw [forIn_find l (fun x => if p x then none else some false) body, findSome?_not]
  · cases l.all p <;> rfl
  · intro x hx
    rw [hb x hx]
    cases p x <;> rfl

/-- `for c in cs { if seen[c] || bad(c) { return false }; seen[c] = true }`; `k`, what follows the loop, only looks at
the result slot. -/
theorem forIn_seen {α β : Type} [BEq α] [LawfulBEq α] [DecidableEq α] (bad : α → Bool)
    (body : α → Option Bool × List α → P (ForInStep (Option Bool × List α)))
    (hb : ∀ c seen, body c (none, seen) =
      P.ok (if seen.contains c || bad c then .done (some false, seen) else .yield (none, c :: seen)))
    (k : Option Bool × List α → P β) (hk : ∀ r s s', k (r, s) = k (r, s')) (cs : List α) :
    ∀ seen, forIn cs (none, seen) body >>= k =
      k (if cs.Nodup ∧ (∀ c ∈ cs, bad c = false) ∧ ∀ c ∈ cs, c ∉ seen then none else some false, seen) := by
  induction cs with
  | nil => intro seen; simp
  | cons c cs ih =>
    intro seen
    rw [List.forIn_cons, hb]
    by_cases h : (seen.contains c || bad c) = true
    · rw [if_pos h, if_neg]
      · rfl
      · rintro ⟨-, h2, h3⟩
        simp only [Bool.or_eq_true, List.contains_iff_mem, h2 c (List.mem_cons_self ..), Bool.false_eq_true, or_false] at h
        exact h3 c (List.mem_cons_self ..) h
    · rw [if_neg h]
      simp only [Bool.or_eq_true, List.contains_iff_mem, not_or, Bool.not_eq_true] at h
      refine (ih (c :: seen)).trans ((hk _ _ seen).trans ?_)
      have : (cs.Nodup ∧ (∀ x ∈ cs, bad x = false) ∧ ∀ x ∈ cs, x ∉ c :: seen) ↔
          ((c :: cs).Nodup ∧ (∀ x ∈ c :: cs, bad x = false) ∧ ∀ x ∈ c :: cs, x ∉ seen) := by
        simp only [List.nodup_cons, List.mem_cons, not_or, forall_eq_or_imp, h, not_false_eq_true, true_and, forall_and,
          List.forall_mem_ne', and_assoc, and_left_comm]
      simp only [this]

protected theorem make_ok {α : Type} [Inhabited α] (n : Nat) :
    (make (n : Int) : P (List α)) = P.ok (List.replicate n default) := by
  unfold make
  rw [if_neg (by omega)]
  simp

theorem make0 {α : Type} [Inhabited α] : (make (0 : Int) : P (List α)) = P.ok [] := rfl

theorem idx_append {α : Type} (pre : List α) (v : α) (rest : List α) :
    idx (pre ++ v :: rest) (pre.length : Int) = P.ok v := by
  unfold idx
  rw [if_neg (by omega)]
  simp

theorem setIdx_append (pre ps : Bytes) (p x : UInt8) :
    setIdx (pre ++ p :: ps) (pre.length : Int) x = P.ok (pre ++ [x] ++ ps) := by
  unfold setIdx
  rw [if_neg (by simp; omega)]
  simp

theorem slice_ok (bz : Bytes) (lo n : Nat) (h : lo + n ≤ bz.length) :
    slice bz (lo : Int) (some ((lo + n : Nat) : Int)) = P.ok ((bz.drop lo).take n) := by
  unfold slice
  simp only [Option.getD_some]
  rw [if_neg (by omega), List.take_drop]
  simp only [Int.toNat_natCast]

theorem slice_suffix (pfx suffix : Bytes) : slice (pfx ++ suffix) (len pfx) none = P.ok suffix := by
  unfold slice len
  rw [if_neg (by simp only [Option.getD_none, List.length_append]; omega)]
  simp only [Option.getD_none, Int.toNat_natCast, List.take_length, List.drop_left]

/-- `copy(dst[len(pre):], v)` into a buffer with room for `v` -/
protected theorem copyAt_append (pre pad v : Bytes) (h : v.length ≤ pad.length) :
    copyAt (pre ++ pad) (pre.length : Int) v = P.ok (pre ++ v ++ pad.drop v.length, (v.length : Int)) := by
  unfold copyAt
  rw [if_neg (by simp; omega)]
  simp only [Int.toNat_natCast, List.length_append, Nat.add_sub_cancel_left]
  rw [Nat.min_eq_right h]
  simp [List.drop_append]

protected theorem copy_full (s : Bytes) (n : Nat) (h : s.length = n) :
    copyAt (List.replicate n (default : UInt8)) 0 s = P.ok (s, (n : Int)) := by
  have := Go.copyAt_append [] (List.replicate n (default : UInt8)) s (by simp [h])
  simp only [List.nil_append, List.length_nil, Int.cast_ofNat_Int] at this
  rw [this]
  simp [h]

theorem toU8_len (v : Bytes) : toU8 (len v) = UInt8.ofNat v.length := by
  unfold toU8 len
  rw [show (256 : Int) = ((256 : Nat) : Int) from rfl, ← Int.natCast_emod, Int.toNat_natCast]
  exact UInt8.ofNat_mod_size

theorem mapSet_fresh {α : Type} (m : GoMap α) (k : Bytes) (v : α) (h : k ∉ m.map (·.1)) :
    mapSet m k v = m ++ [(k, v)] := by
  unfold mapSet
  have : m.any (fun e => e.1 == k) = false := by
    rw [List.any_eq_false]
    intro e he hek
    exact h (List.mem_map.mpr ⟨e, he, by simpa using hek⟩)
  rw [this]
  rfl

theorem fold_mapSet {α β : Type} (f : α → Bytes × β) (l : List α) (hd : (l.map fun x => (f x).1).Nodup) :
    ∀ acc : GoMap β, (∀ x ∈ l, (f x).1 ∉ acc.map (·.1)) →
      l.foldl (fun m x => mapSet m (f x).1 (f x).2) acc = acc ++ l.map f := by
  induction l with
  | nil => intro acc _; simp
  | cons x l ih =>
    intro acc hacc
    have hd' := List.nodup_cons.mp hd
    rw [List.foldl_cons, mapSet_fresh acc _ _ (hacc x (List.mem_cons_self ..)), ih hd'.2, List.map_cons,
      List.append_assoc, List.singleton_append]
    intro y hy hmem
    simp only [List.map_append, List.map_cons, List.map_nil, List.mem_append, List.mem_singleton] at hmem
    rcases hmem with h | h
    · exact hacc y (List.mem_cons_of_mem _ hy) h
    · exact hd'.1 (List.mem_map.mpr ⟨y, hy, h⟩)

theorem set_run (s : Store) (k v : Bytes) (w : World) (h : s.pfx ++ k ≠ []) :
    s.set k v w = P.ok (w.setStore s.name ((w.store s.name).set (s.pfx ++ k) v)) := by
  unfold Store.set
  rw [if_neg h]

theorem getD_marshal {G : Type} [Inhabited G] [Proto G] [LawfulProto G] (x : G) :
    ((Proto.unmarshal (Proto.marshal x) : Option G).getD default) = x := by
  rw [LawfulProto.unmarshal_marshal]
  rfl

theorem all_filterMap_some {α : Type} {l : List (Option α)} {p : α → Bool} (hn : ∀ x ∈ l, x.isSome = true) :
    l.all (Option.any p) = (l.filterMap id).all p := by
  induction l with
  | nil => rfl
  | cons x l ih =>
    obtain ⟨a, rfl⟩ := Option.isSome_iff_exists.mp (hn x (List.mem_cons_self ..))
    simp only [List.all_cons, List.filterMap_cons, id, Option.any_some, ih fun y hy => hn y (List.mem_cons_of_mem _ hy)]

theorem isEmpty_filterMap_some {α : Type} (l : List (Option α)) (hn : ∀ x ∈ l, x.isSome = true) :
    (l.filterMap id).isEmpty = l.isEmpty := by
  cases l with
  | nil => rfl
  | cons x l =>
    obtain ⟨a, rfl⟩ := Option.isSome_iff_exists.mp (hn x (List.mem_cons_self ..))
    rfl

theorem foldl_refines {W S A B : Type} (abs : W → S) (WF : W → Prop) (g : W → A → W) (m : S → B → S) (t : A → B)
    (step : ∀ w a, WF w → abs (g w a) = m (abs w) (t a) ∧ WF (g w a)) (l : List A) :
    ∀ w, WF w → abs (l.foldl g w) = (l.map t).foldl m (abs w) ∧ WF (l.foldl g w) := by
  induction l with
  | nil => intro w h; exact ⟨rfl, h⟩
  | cons a l ih =>
    intro w h
    obtain ⟨ha, hw⟩ := step w a h
    simp only [List.foldl_cons, List.map_cons, ← ha]
    exact ih _ hw

end Panacea.Go
