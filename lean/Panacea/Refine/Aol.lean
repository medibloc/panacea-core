import Panacea.Refine.CompKey
import Panacea.Model.Aol
import Panacea.Refine.Store
/-!
The translated `x/aol` keeper and message server (`/repo/x/aol`) work on the module's raw KV store (`World.store "aol"`);
the model `Panacea.Aol` keeps four typed tables.  `abs` reads the store as those tables, and every handler, run on a
well-formed world `w`, does what `Aol.handle` does on `abs w` (`Sim`).  The protobuf codec is a parameter with two laws
(`LawfulProto`), bech32 a parameter without laws.
-/
namespace Panacea.Refine.Aol
open Panacea Panacea.Gen Panacea.Go Panacea.Refine.CompKey

def toOwner (o : aoltypes.Owner) : Aol.Owner := { totalTopics := o.TotalTopics }
def toTopic (t : aoltypes.Topic) : Aol.Topic :=
  { description := t.Description, totalRecords := t.TotalRecords, totalWriters := t.TotalWriters }
def toWriter (x : aoltypes.Writer) : Aol.Writer :=
  { moniker := x.Moniker, description := x.Description, nanoTimestamp := x.NanoTimestamp }
def toRecord (r : aoltypes.Record) : Aol.Record :=
  { key := r.Key, value := r.Value, nanoTimestamp := r.NanoTimestamp, writerAddress := r.WriterAddress }

theorem toOwner_inj : ∀ a b : aoltypes.Owner, toOwner a = toOwner b → a = b :=
  fun ⟨_⟩ ⟨_⟩ h => by
    cases h
    rfl
theorem toTopic_inj : ∀ a b : aoltypes.Topic, toTopic a = toTopic b → a = b :=
  fun ⟨_, _, _⟩ ⟨_, _, _⟩ h => by
    cases h
    rfl
theorem toWriter_inj : ∀ a b : aoltypes.Writer, toWriter a = toWriter b → a = b :=
  fun ⟨_, _, _⟩ ⟨_, _, _⟩ h => by
    cases h
    rfl
theorem toRecord_inj : ∀ a b : aoltypes.Record, toRecord a = toRecord b → a = b :=
  fun ⟨_, _, _, _⟩ ⟨_, _, _, _⟩ h => by
    cases h
    rfl

theorem mustEncode_eq {κ : Type} (I : compkey.CompositeKey κ) (key : κ) (vs : List Bytes)
    (h : I.ByteSlices key = P.ok vs) :
    compkey.MustEncode I key = match CompKey.encode vs with
      | some b => P.ok b
      | none => P.panic "err" := by
  unfold compkey.MustEncode compkey.Encode
  simp only [bind_pure_comp, h, P.ok_bind, encode_refines, P.map_ok]
  unfold encodeSpec
  cases CompKey.encode vs <;> rfl

theorem mustEncode_bind {κ α : Type} (I : compkey.CompositeKey κ) (key : κ) (vs : List Bytes)
    (h : I.ByteSlices key = P.ok vs) (f : Bytes → P α) :
    (compkey.MustEncode I key >>= f) = match CompKey.encode vs with
      | some k => f k
      | none => P.panic "err" := by
  rw [mustEncode_eq I key vs h]
  cases CompKey.encode vs <;> rfl

theorem encodeE_eq {κ : Type} (I : compkey.CompositeKey κ) (key : κ) (vs : List Bytes)
    (h : I.ByteSlices key = P.ok vs) : compkey.Encode I key = P.ok (encodeSpec vs) := by
  unfold compkey.Encode
  simp only [h, P.ok_bind, encode_refines]
  rfl

theorem writerKey_eq (bech : Go.Bech32) (o t x : Bytes) :
    compkey.MustEncode (aoltypes.WriterCompositeKey.asCompositeKey bech)
        (some { OwnerAddress := o, TopicName := t, WriterAddress := x }) =
      match CompKey.encode [o, t, x] with | some b => P.ok b | none => P.panic "err" :=
  mustEncode_eq _ _ _ rfl

theorem recordKey_eq (bech : Go.Bech32) (o t : Bytes) (n : Nat) :
    compkey.MustEncode (aoltypes.RecordCompositeKey.asCompositeKey bech)
        (some { OwnerAddress := o, TopicName := t, Offset := n }) =
      match CompKey.encode [o, t, be64 n] with | some b => P.ok b | none => P.panic "err" :=
  mustEncode_eq _ _ _ rfl

/-- the Go error (registered code) the model's error names stand for -/
def errOf : String → Go.Err
  | "invalid-address:owner" => some "sdk/7"
  | "invalid-address:writer" => some "sdk/7"
  | "aol/5:topic-exists" => some "aol/5"
  | "aol/6:writer-exists" => some "aol/6"
  | "aol/7:topic-not-found" => some "aol/7"
  | "aol/8:writer-not-found" => some "aol/8"
  | "aol/9:writer-not-authorized" => some "aol/9"
  | _ => none

/-! `errOf` on each code, once: it is a match on string literals, slow to evaluate inside the handler proofs.  `eq_n` is
the n-th arm of the match: keep the order. -/
theorem errOf_owner : errOf ("invalid-address:" ++ "owner") = some "sdk/7" := by decide +kernel
theorem errOf_writer : errOf ("invalid-address:" ++ "writer") = some "sdk/7" := by decide +kernel
theorem errOf_topicExists : errOf "aol/5:topic-exists" = aoltypes.ErrTopicExists := errOf.eq_3
theorem errOf_writerExists : errOf "aol/6:writer-exists" = aoltypes.ErrWriterExists := errOf.eq_4
theorem errOf_topicNotFound : errOf "aol/7:topic-not-found" = aoltypes.ErrTopicNotFound := errOf.eq_5
theorem errOf_writerNotFound : errOf "aol/8:writer-not-found" = aoltypes.ErrWriterNotFound := errOf.eq_6
theorem errOf_writerNotAuthorized : errOf "aol/9:writer-not-authorized" = aoltypes.ErrWriterNotAuthorized := errOf.eq_7

variable [Go.Proto aoltypes.Owner] [Go.Proto aoltypes.Topic] [Go.Proto aoltypes.Writer] [Go.Proto aoltypes.Record]

def absMap (m : Map Bytes) : Aol.State :=
  { owners := table toOwner m [0], topics := table toTopic m [1],
    writers := table toWriter m [2], records := table toRecord m [3] }

def abs (w : World) : Aol.State := absMap (w.store "aol")

/-- sorted, as any IAVL store is; every value under the four prefixes decodes: only the keeper writes there, through
`MustMarshal` -/
structure WFMap (m : Map Bytes) : Prop where
  sorted : m.Sorted
  owners : Decodes aoltypes.Owner m [0]
  topics : Decodes aoltypes.Topic m [1]
  writers : Decodes aoltypes.Writer m [2]
  records : Decodes aoltypes.Record m [3]

def WF (w : World) : Prop := WFMap (w.store "aol")

theorem abs_setStore (w : World) (m : Map Bytes) : abs (w.setStore "aol" m) = absMap m := by
  unfold abs
  rw [store_setStore]

theorem wf_setStore (w : World) (m : Map Bytes) : WF (w.setStore "aol" m) ↔ WFMap m := by
  unfold WF
  rw [store_setStore]

section keeper
variable [Go.LawfulProto aoltypes.Owner] [Go.LawfulProto aoltypes.Topic] [Go.LawfulProto aoltypes.Writer]
  [Go.LawfulProto aoltypes.Record]
variable (bech : Go.Bech32) (w : World)

/-- the common body of the four `Get…`, which unfold to it by `rfl` -/
theorem get_run {κ : Type} (I : compkey.CompositeKey κ) (key : κ) (vs : List Bytes) (h : I.ByteSlices key = P.ok vs)
    (p : Bytes) (G : Type) [Inhabited G] [Go.Proto G] [Go.LawfulProto G] (hd : Decodes G (w.store "aol") p) :
    (do let t ← compkey.MustEncode I key
        let x ← (Go.mustUnmarshal (Go.Store.get (Go.prefixStore (Go.kvStore "aol") p) t w) : P G)
        pure (x, w)) =
      match CompKey.encode vs with
      | some k => P.ok (readG G (w.store "aol") p k, w)
      | none => P.panic "err" := by
  rw [mustEncode_bind I key vs h]
  cases CompKey.encode vs with
  | none => rfl
  | some k => exact congrArg (· >>= fun x => P.ok (x, w)) (read_ok G (w.store "aol") p k hd)

theorem hasTopic_run (o t : Bytes) :
    aolkeeper.Keeper.HasTopic bech { OwnerAddress := o, TopicName := t } w =
      match CompKey.encode [o, t] with
      | some tk => P.ok ((w.store "aol").has ([1] ++ tk), w)
      | none => P.panic "err" :=
  mustEncode_bind _ _ _ rfl _

theorem hasWriter_run (o t x : Bytes) :
    aolkeeper.Keeper.HasWriter bech { OwnerAddress := o, TopicName := t, WriterAddress := x } w =
      match CompKey.encode [o, t, x] with
      | some k => P.ok ((w.store "aol").has ([2] ++ k), w)
      | none => P.panic "err" :=
  mustEncode_bind _ _ _ rfl _

theorem getTopic_run (o t : Bytes) (hwf : WF w) :
    aolkeeper.Keeper.GetTopic bech { OwnerAddress := o, TopicName := t } w =
      match CompKey.encode [o, t] with
      | some tk => P.ok (readG aoltypes.Topic (w.store "aol") [1] tk, w)
      | none => P.panic "err" :=
  get_run w _ _ _ rfl _ _ hwf.topics

theorem getOwner_run (o : Bytes) (hwf : WF w) :
    aolkeeper.Keeper.GetOwner bech { OwnerAddress := o } w =
      match CompKey.encode [o] with
      | some k => P.ok (readG aoltypes.Owner (w.store "aol") [0] k, w)
      | none => P.panic "err" :=
  get_run w _ _ _ rfl _ _ hwf.owners

theorem setTopic_run (o t : Bytes) (x : aoltypes.Topic) :
    aolkeeper.Keeper.SetTopic bech { OwnerAddress := o, TopicName := t } x w =
      match CompKey.encode [o, t] with
      | some tk => P.ok (w.setStore "aol" ((w.store "aol").set ([1] ++ tk) (Go.Proto.marshal x)))
      | none => P.panic "err" :=
  mustEncode_bind _ _ _ rfl _

theorem setOwner_run (o : Bytes) (x : aoltypes.Owner) :
    aolkeeper.Keeper.SetOwner bech { OwnerAddress := o } x w =
      match CompKey.encode [o] with
      | some k => P.ok (w.setStore "aol" ((w.store "aol").set ([0] ++ k) (Go.Proto.marshal x)))
      | none => P.panic "err" :=
  mustEncode_bind _ _ _ rfl _

theorem setWriter_run (o t a : Bytes) (x : aoltypes.Writer) :
    aolkeeper.Keeper.SetWriter bech { OwnerAddress := o, TopicName := t, WriterAddress := a } x w =
      match CompKey.encode [o, t, a] with
      | some k => P.ok (w.setStore "aol" ((w.store "aol").set ([2] ++ k) (Go.Proto.marshal x)))
      | none => P.panic "err" :=
  mustEncode_bind _ _ _ rfl _

theorem removeWriter_run (o t a : Bytes) :
    aolkeeper.Keeper.RemoveWriter bech { OwnerAddress := o, TopicName := t, WriterAddress := a } w =
      match CompKey.encode [o, t, a] with
      | some k => P.ok (w.setStore "aol" ((w.store "aol").del ([2] ++ k)))
      | none => P.panic "err" :=
  mustEncode_bind _ _ _ rfl _

theorem setRecord_run (o t : Bytes) (n : Nat) (x : aoltypes.Record) :
    aolkeeper.Keeper.SetRecord bech { OwnerAddress := o, TopicName := t, Offset := n } x w =
      match CompKey.encode [o, t, be64 n] with
      | some k => P.ok (w.setStore "aol" ((w.store "aol").set ([3] ++ k) (Go.Proto.marshal x)))
      | none => P.panic "err" :=
  mustEncode_bind _ _ _ rfl _

theorem getWriter_run (o t x : Bytes) (hwf : WF w) :
    aolkeeper.Keeper.GetWriter bech { OwnerAddress := o, TopicName := t, WriterAddress := x } w =
      match CompKey.encode [o, t, x] with
      | some k => P.ok (readG aoltypes.Writer (w.store "aol") [2] k, w)
      | none => P.panic "err" :=
  get_run w _ _ _ rfl _ _ hwf.writers

theorem hasRecord_run (o t : Bytes) (n : Nat) :
    aolkeeper.Keeper.HasRecord bech { OwnerAddress := o, TopicName := t, Offset := n } w =
      match CompKey.encode [o, t, be64 n] with
      | some k => P.ok ((w.store "aol").has ([3] ++ k), w)
      | none => P.panic "err" :=
  mustEncode_bind _ _ _ rfl _

theorem getRecord_run (o t : Bytes) (n : Nat) (hwf : WF w) :
    aolkeeper.Keeper.GetRecord bech { OwnerAddress := o, TopicName := t, Offset := n } w =
      match CompKey.encode [o, t, be64 n] with
      | some k => P.ok (readG aoltypes.Record (w.store "aol") [3] k, w)
      | none => P.panic "err" :=
  get_run w _ _ _ rfl _ _ hwf.records

end keeper

section absLemmas
variable [Go.LawfulProto aoltypes.Owner] [Go.LawfulProto aoltypes.Topic] [Go.LawfulProto aoltypes.Writer]
  [Go.LawfulProto aoltypes.Record]

theorem absMap_set_owner (m : Map Bytes) (hs : m.Sorted) (k : Bytes) (x : aoltypes.Owner) :
    absMap (m.set ([0] ++ k) (Go.Proto.marshal x)) = { absMap m with owners := (absMap m).owners.set k (toOwner x) } := by
  simp only [absMap, table_set _ m hs, getD_marshal]
  rfl

theorem absMap_set_topic (m : Map Bytes) (hs : m.Sorted) (k : Bytes) (x : aoltypes.Topic) :
    absMap (m.set ([1] ++ k) (Go.Proto.marshal x)) = { absMap m with topics := (absMap m).topics.set k (toTopic x) } := by
  simp only [absMap, table_set _ m hs, getD_marshal]
  rfl

theorem absMap_set_writer (m : Map Bytes) (hs : m.Sorted) (k : Bytes) (x : aoltypes.Writer) :
    absMap (m.set ([2] ++ k) (Go.Proto.marshal x)) = { absMap m with writers := (absMap m).writers.set k (toWriter x) } := by
  simp only [absMap, table_set _ m hs, getD_marshal]
  rfl

theorem absMap_set_record (m : Map Bytes) (hs : m.Sorted) (k : Bytes) (x : aoltypes.Record) :
    absMap (m.set ([3] ++ k) (Go.Proto.marshal x)) = { absMap m with records := (absMap m).records.set k (toRecord x) } := by
  simp only [absMap, table_set _ m hs, getD_marshal]
  rfl

theorem absMap_del_writer (m : Map Bytes) (hs : m.Sorted) (k : Bytes) :
    absMap (m.del ([2] ++ k)) = { absMap m with writers := (absMap m).writers.del k } := by
  simp only [absMap, table_del _ m hs]
  rfl

theorem wf_set_owner (m : Map Bytes) (h : WFMap m) (k : Bytes) (x : aoltypes.Owner) :
    WFMap (m.set ([0] ++ k) (Go.Proto.marshal x)) :=
  { sorted := Map.sorted_set h.sorted
    owners := decodes_set_same _ _ _ _ _ h.owners
    topics := decodes_set_other (by decide) h.topics
    writers := decodes_set_other (by decide) h.writers
    records := decodes_set_other (by decide) h.records }

theorem wf_set_topic (m : Map Bytes) (h : WFMap m) (k : Bytes) (x : aoltypes.Topic) :
    WFMap (m.set ([1] ++ k) (Go.Proto.marshal x)) :=
  { sorted := Map.sorted_set h.sorted
    owners := decodes_set_other (by decide) h.owners
    topics := decodes_set_same _ _ _ _ _ h.topics
    writers := decodes_set_other (by decide) h.writers
    records := decodes_set_other (by decide) h.records }

theorem wf_set_writer (m : Map Bytes) (h : WFMap m) (k : Bytes) (x : aoltypes.Writer) :
    WFMap (m.set ([2] ++ k) (Go.Proto.marshal x)) :=
  { sorted := Map.sorted_set h.sorted
    owners := decodes_set_other (by decide) h.owners
    topics := decodes_set_other (by decide) h.topics
    writers := decodes_set_same _ _ _ _ _ h.writers
    records := decodes_set_other (by decide) h.records }

theorem wf_set_record (m : Map Bytes) (h : WFMap m) (k : Bytes) (x : aoltypes.Record) :
    WFMap (m.set ([3] ++ k) (Go.Proto.marshal x)) :=
  { sorted := Map.sorted_set h.sorted
    owners := decodes_set_other (by decide) h.owners
    topics := decodes_set_other (by decide) h.topics
    writers := decodes_set_other (by decide) h.writers
    records := decodes_set_same _ _ _ _ _ h.records }

theorem wf_del (m : Map Bytes) (h : WFMap m) (key : Bytes) : WFMap (m.del key) :=
  { sorted := Map.sorted_del h.sorted
    owners := decodes_del h.owners
    topics := decodes_del h.topics
    writers := decodes_del h.writers
    records := decodes_del h.records }

end absLemmas

/-- **Simulation.**  `g` is what the translated handler returns on world `w`, `m` what the model returns on `abs w`:
both accept, with corresponding response and resulting state; or both reject, with the same registered error and the world
unchanged; or both panic. -/
def Sim {ρ : Type} (w : World) (g : P (Option ρ × Go.Err × World)) (m : Outcome (Aol.State × Aol.Resp))
    (respOk : ρ → Aol.Resp → Prop) : Prop :=
  match m with
  | .ok (s', r) => ∃ v w', g = P.ok (some v, none, w') ∧ abs w' = s' ∧ WF w' ∧ respOk v r ∧
      w'.blockTimeNano = w.blockTimeNano
  | .err c => g = P.ok (none, errOf c, w)
  | .panic _ => ∃ s, g = P.panic s

/-! Both programs run the same steps in the same order; each lemma below takes one step off both. -/
section sim
variable {w : World} {ρ : Type} {R : ρ → Aol.Resp → Prop}

theorem sim_err {c : String} {e : Go.Err} (h : errOf c = e) : Sim w (P.ok (none, e, w)) (.err c) R := by
  subst h
  rfl

/-- `w1` is the world after the handler's earlier writes: only its header time matters. -/
theorem sim_ok {v : ρ} {r : Aol.Resp} {s' : Aol.State} {w1 : World} {m' : Map Bytes}
    (ht : w1.blockTimeNano = w.blockTimeNano) (ha : absMap m' = s') (hwf : WFMap m') (hr : R v r) :
    Sim w (P.ok (some v, none, w1.setStore "aol" m')) (.ok (s', r)) R :=
  ⟨v, _, rfl, by rw [abs_setStore, ha], (wf_setStore _ _).mpr hwf, hr, by rw [time_setStore, ht]⟩

theorem sim_key {α : Type} {vs : List Bytes} {K : P α} {f : Bytes → α}
    (hK : K = match CompKey.encode vs with | some k => P.ok (f k) | none => P.panic "err")
    {G : α → P (Option ρ × Go.Err × World)} {M : Bytes → Outcome (Aol.State × Aol.Resp)}
    (h : ∀ k, CompKey.encode vs = some k → Sim w (G (f k)) (M k) R) :
    Sim w (K >>= G) (Aol.mustEncode vs >>= M) R := by
  subst hK
  unfold Aol.mustEncode
  cases he : CompKey.encode vs with
  | none => exact ⟨_, rfl⟩
  | some k => exact h k he

/-- as `Refine.Pnft.Keeps.ite`: both refuse under the same test, with corresponding errors -/
theorem sim_refuse {b : Bool} {c : String} {e : Go.Err} (he : errOf c = e) {g : P (Option ρ × Go.Err × World)}
    {m : Outcome (Aol.State × Aol.Resp)} (h : Sim w g m R) :
    Sim w (if b = true then P.ok (none, e, w) else g) (if b = true then .err c else m) R := by
  cases b
  · exact h
  · exact sim_err he

end sim

section handlers
variable [Go.LawfulProto aoltypes.Owner] [Go.LawfulProto aoltypes.Topic] [Go.LawfulProto aoltypes.Writer]
  [Go.LawfulProto aoltypes.Record]
variable (bech : Go.Bech32) (w : World)

theorem acc_eq (s : Bytes) : Go.accAddressFromBech32 bech s =
    match (toCodec bech).dec s with | some a => (a, none) | none => ([], some "bech32") := rfl

/-! `abs` commutes with the reads of `Aol.handle`: rewritten first, so that both sides test and read the raw store. -/
theorem hasTopic_abs (k : Bytes) : (abs w).topics.has k = (w.store "aol").has ([1] ++ k) := table_has ..

theorem hasWriter_abs (k : Bytes) : (abs w).writers.has k = (w.store "aol").has ([2] ++ k) := table_has ..

theorem getOwner_abs (k : Bytes) :
    ((abs w).owners.get k).getD {} = toOwner (readG aoltypes.Owner (w.store "aol") [0] k) :=
  (conv_read toOwner (w.store "aol") [0] k).symm

theorem getTopic_abs (k : Bytes) :
    ((abs w).topics.get k).getD {} = toTopic (readG aoltypes.Topic (w.store "aol") [1] k) :=
  (conv_read toTopic (w.store "aol") [1] k).symm

theorem u64add_one (a : Nat) : Go.u64add a 1 = wrap64 (a + 1) := Go.u64add_one a

/-- The four handlers.  The request is non-nil (`some msg`: gRPC never passes nil, and `deref` would panic); the model's
`now` is the world's header time; `AddRecord` answers the owner, topic and offset the model answers, the others
nothing. -/
theorem createTopic_refines (msg : aoltypes.MsgCreateTopicRequest) (hwf : WF w) :
    Sim w (aolkeeper.msgServer.CreateTopic bech (some msg) w)
      (Aol.handle (toCodec bech) w.blockTimeNano (abs w)
        (.createTopic msg.TopicName msg.Description msg.OwnerAddress))
      (fun _ r => r = .empty) := by
  unfold aolkeeper.msgServer.CreateTopic Aol.handle Aol.decAddr Go.accAddressFromBech32
  simp only [go_eval, toCodec, hasTopic_abs, getOwner_abs]
  -- both sides branch on the one `bech.dec …`; the `match some o with …` left behind reduce as the steps below unify
  rcases bech.dec msg.OwnerAddress with _ | o
  · exact sim_err errOf_owner
  apply sim_key (hasTopic_run bech w o msg.TopicName) fun tk htk => ?_
  apply sim_refuse errOf_topicExists
  apply sim_key (getOwner_run bech w o hwf) fun ok hok => ?_
  simp only [go_eval, aoltypes.Owner.IncreaseTotalTopics, setOwner_run, setTopic_run, htk, hok, store_setStore]
  refine sim_ok (time_setStore ..) ?_ (wf_set_topic _ (wf_set_owner _ hwf _ _) _ _) rfl
  rw [absMap_set_topic _ (Map.sorted_set hwf.sorted), absMap_set_owner _ hwf.sorted]
  rfl

theorem addWriter_refines (msg : aoltypes.MsgAddWriterRequest) (hwf : WF w) :
    Sim w (aolkeeper.msgServer.AddWriter bech (some msg) w)
      (Aol.handle (toCodec bech) w.blockTimeNano (abs w)
        (.addWriter msg.TopicName msg.Moniker msg.Description msg.WriterAddress msg.OwnerAddress))
      (fun _ r => r = .empty) := by
  unfold aolkeeper.msgServer.AddWriter Aol.handle Aol.decAddr Go.accAddressFromBech32
  simp only [go_eval, toCodec, hasTopic_abs, hasWriter_abs, getTopic_abs]
  rcases bech.dec msg.OwnerAddress with _ | o
  · exact sim_err errOf_owner
  rcases bech.dec msg.WriterAddress with _ | a
  · exact sim_err errOf_writer
  apply sim_key (hasTopic_run bech w o msg.TopicName) fun tk htk => ?_
  apply sim_refuse errOf_topicNotFound
  apply sim_key (hasWriter_run bech w o msg.TopicName a) fun wk hwk => ?_
  apply sim_refuse errOf_writerExists
  simp only [go_eval, getTopic_run bech w _ _ hwf, aoltypes.Topic.IncreaseTotalWriters, setTopic_run, setWriter_run,
    htk, hwk, store_setStore, time_setStore, Go.blockTimeUnixNano]
  refine sim_ok (time_setStore ..) ?_ (wf_set_writer _ (wf_set_topic _ hwf _ _) _ _) rfl
  rw [absMap_set_writer _ (Map.sorted_set hwf.sorted), absMap_set_topic _ hwf.sorted]
  rfl

theorem deleteWriter_refines (msg : aoltypes.MsgDeleteWriterRequest) (hwf : WF w) :
    Sim w (aolkeeper.msgServer.DeleteWriter bech (some msg) w)
      (Aol.handle (toCodec bech) w.blockTimeNano (abs w)
        (.deleteWriter msg.TopicName msg.WriterAddress msg.OwnerAddress))
      (fun _ r => r = .empty) := by
  unfold aolkeeper.msgServer.DeleteWriter Aol.handle Aol.decAddr Go.accAddressFromBech32
  simp only [go_eval, toCodec, hasWriter_abs, getTopic_abs]
  rcases bech.dec msg.OwnerAddress with _ | o
  · exact sim_err errOf_owner
  rcases bech.dec msg.WriterAddress with _ | a
  · exact sim_err errOf_writer
  apply sim_key (hasWriter_run bech w o msg.TopicName a) fun wk hwk => ?_
  apply sim_refuse errOf_writerNotFound
  apply sim_key (getTopic_run bech w o msg.TopicName hwf) fun tk htk => ?_
  simp only [go_eval, aoltypes.Topic.DecreaseTotalWriters, u64sub_one, setTopic_run, removeWriter_run, htk, hwk,
    store_setStore]
  refine sim_ok (time_setStore ..) ?_ (wf_del _ (wf_set_topic _ hwf _ _) _) rfl
  rw [absMap_del_writer _ (Map.sorted_set hwf.sorted), absMap_set_topic _ hwf.sorted]
  rfl

theorem addRecord_refines (msg : aoltypes.MsgAddRecordRequest) (hwf : WF w) :
    Sim w (aolkeeper.msgServer.AddRecord bech (some msg) w)
      (Aol.handle (toCodec bech) w.blockTimeNano (abs w)
        (.addRecord msg.TopicName msg.Key msg.Value msg.WriterAddress msg.OwnerAddress msg.FeePayerAddress))
      (fun v r => r = .addRecord v.OwnerAddress v.TopicName v.Offset) := by
  unfold aolkeeper.msgServer.AddRecord Aol.handle Aol.decAddr Go.accAddressFromBech32
  simp only [go_eval, toCodec, hasTopic_abs, hasWriter_abs, getTopic_abs]
  rcases bech.dec msg.OwnerAddress with _ | o
  · exact sim_err errOf_owner
  rcases bech.dec msg.WriterAddress with _ | a
  · exact sim_err errOf_writer
  apply sim_key (hasTopic_run bech w o msg.TopicName) fun tk htk => ?_
  apply sim_refuse errOf_topicNotFound
  apply sim_key (hasWriter_run bech w o msg.TopicName a) fun wk hwk => ?_
  apply sim_refuse errOf_writerNotAuthorized
  simp only [go_eval, getTopic_run bech w _ _ hwf, aoltypes.Topic.NextRecordOffset,
    aoltypes.Topic.IncreaseTotalRecords, setTopic_run, htk]
  apply sim_key (setRecord_run bech _ o msg.TopicName _ _) fun rk hrk => ?_
  simp only [store_setStore, time_setStore, Go.blockTimeUnixNano]
  refine sim_ok (time_setStore ..) ?_ (wf_set_record _ (wf_set_topic _ hwf _ _) _ _) rfl
  rw [absMap_set_record _ (Map.sorted_set hwf.sorted), absMap_set_topic _ hwf.sorted]
  rfl

inductive GMsg where
  | createTopic (m : aoltypes.MsgCreateTopicRequest)
  | addWriter (m : aoltypes.MsgAddWriterRequest)
  | deleteWriter (m : aoltypes.MsgDeleteWriterRequest)
  | addRecord (m : aoltypes.MsgAddRecordRequest)

/-- the same function as `AolTypes.toModelCreate…` and as the message written out in each `…_refines` (`rfl`) -/
def GMsg.toModel : GMsg → Aol.Msg
  | .createTopic m => .createTopic m.TopicName m.Description m.OwnerAddress
  | .addWriter m => .addWriter m.TopicName m.Moniker m.Description m.WriterAddress m.OwnerAddress
  | .deleteWriter m => .deleteWriter m.TopicName m.WriterAddress m.OwnerAddress
  | .addRecord m => .addRecord m.TopicName m.Key m.Value m.WriterAddress m.OwnerAddress m.FeePayerAddress

/-- One message delivered by baseapp: the handler runs on a branch of the state with the block time of the header;
`accepted` keeps the branch only for a response and no error, a returned error or a panic discards it.  (baseapp itself
looks at the error only; the handlers return a response exactly when they return no error.) -/
def genStep (w : World) (op : Int × GMsg) : World :=
  let w1 : World := { w with blockTimeNano := op.1 }
  let r := match op.2 with
    | .createTopic m => accepted (aolkeeper.msgServer.CreateTopic bech (some m) w1)
    | .addWriter m => accepted (aolkeeper.msgServer.AddWriter bech (some m) w1)
    | .deleteWriter m => accepted (aolkeeper.msgServer.DeleteWriter bech (some m) w1)
    | .addRecord m => accepted (aolkeeper.msgServer.AddRecord bech (some m) w1)
  r.getD w1

def genRun (w : World) (ops : List (Int × GMsg)) : World := ops.foldl (genStep bech) w

theorem sim_step {ρ : Type} {w1 : World} {g : P (Option ρ × Go.Err × World)} {c : CompKey.AddrCodec} {now : Int}
    {msg : Aol.Msg} {R : ρ → Aol.Resp → Prop} (hwf : WF w1) (h : Sim w1 g (Aol.handle c now (abs w1) msg) R) :
    abs ((accepted g).getD w1) = Aol.step c (abs w1) (now, msg) ∧ WF ((accepted g).getD w1) := by
  unfold Aol.step
  generalize Aol.handle c now (abs w1) msg = m at h
  cases m with
  | ok p =>
    obtain ⟨v, w', hg, ha, hw, _, _⟩ := h
    subst hg
    exact ⟨ha, hw⟩
  | err c =>
    subst h
    exact ⟨rfl, hwf⟩
  | panic s =>
    obtain ⟨s', hg⟩ := h
    subst hg
    exact ⟨rfl, hwf⟩

theorem genStep_abs (op : Int × GMsg) (hwf : WF w) :
    abs (genStep bech w op) = Aol.step (toCodec bech) (abs w) (op.1, op.2.toModel) ∧ WF (genStep bech w op) := by
  obtain ⟨now, g⟩ := op
  -- `hwf : WF w` serves for the world with the header time set: `WF` reads the store only
  cases g with
  | createTopic m => exact sim_step hwf (createTopic_refines bech { w with blockTimeNano := now } m hwf)
  | addWriter m => exact sim_step hwf (addWriter_refines bech { w with blockTimeNano := now } m hwf)
  | deleteWriter m => exact sim_step hwf (deleteWriter_refines bech { w with blockTimeNano := now } m hwf)
  | addRecord m => exact sim_step hwf (addRecord_refines bech { w with blockTimeNano := now } m hwf)

/-- **Every history**: running the translated message server over any list of messages, from any
well-formed world, gives a world that stands for exactly the state the model reaches — so every theorem
about `Aol.run` (C01, C02, C13) is a theorem about the code as translated. -/
theorem genRun_abs (ops : List (Int × GMsg)) : ∀ (w : World), WF w →
    abs (genRun bech w ops) = Aol.run (toCodec bech) (abs w) (ops.map fun op => (op.1, op.2.toModel)) ∧
    WF (genRun bech w ops) :=
  foldl_refines abs WF (genStep bech) (Aol.step (toCodec bech)) (fun op => (op.1, op.2.toModel))
    (fun w op => genStep_abs bech w op) ops

theorem wf_empty : WF ({} : World) :=
  { sorted := List.Pairwise.nil
    owners := nofun
    topics := nofun
    writers := nofun
    records := nofun }

theorem abs_empty : abs ({} : World) = {} := rfl

end handlers

end Panacea.Refine.Aol
