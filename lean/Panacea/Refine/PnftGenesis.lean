import Panacea.Refine.PnftQuery
/-!
# Genesis export and import of the translated `x/pnft` module

`pnft.ExportGenesis` and `pnft.InitGenesis` (`/repo/x/pnft/genesis.go`) as pure functions of the raw `x/nft` world.
That importing an export gives back the same state (C08) is *not* proved for PNFT: it needs "the export lists every
token exactly once", the listing exactness of C12 for all classes at once; the `genesis` stream checks it on the real
application.
-/
namespace Panacea.Refine.Pnft
open Panacea Panacea.Gen Panacea.Go Panacea.Validate
section
variable [Go.Proto pnfttypes.DenomMeta] [Go.Proto pnfttypes.PNFTMeta]
variable [Go.LawfulProto pnfttypes.DenomMeta] [Go.LawfulProto pnfttypes.PNFTMeta]
set_option linter.unusedSectionVars false

/-- what the export lists as tokens: per class, in class order, the tokens of the class in store order -/
def exportP (bech : Go.Bech32) (w : Nft.World) : List pnfttypes.Pnft :=
  w.classes.flatMap fun e => (Nft.getNFTsOfClass w (denomOf e.2).Id).map fun n => pnftOf bech w (denomOf e.2).Id n.Id n

theorem exportGenesis_run (bech : Go.Bech32) (w : Nft.World) (hwf : WF w) (hp : Pnft.PInv (abs w)) :
    pnft.ExportGenesis bech w =
      P.ok (some { Denoms := w.classes.map (fun e => some (denomOf e.2)), Pnfts := (exportP bech w).map some }, w) := by
  unfold pnft.ExportGenesis pnfttypes.DefaultGenesis
  simp only [go_eval, getAllDenoms_run w hwf hp]
  rw [forIn_appendAll (w, ·) _ (fun d => match d with
    | some d => (Nft.getNFTsOfClass w d.Id).map fun n => some (pnftOf bech w d.Id n.Id n)
    | none => []) _ ?_ default]
  · simp only [go_eval, show (default : List (Option pnfttypes.Pnft)) = [] from rfl, List.nil_append, exportP,
      List.flatMap_map, List.map_flatMap, List.map_map, Function.comp_def]
  · intro x hx acc
    obtain ⟨e, _, rfl⟩ := List.mem_map.mp hx
    simp only [go_eval, getPNFTsByDenomId_run bech w hwf hp]

/-- `InitGenesis`, one denom: saved as a class unless the id is taken — then the chain does not start -/
def importD (w : Nft.World) (d : pnfttypes.Denom) : P Nft.World :=
  if Nft.hasClass w d.Id then P.panic "err" else P.ok { w with classes := w.classes.set d.Id (classOf d) }

/-- `"pnfttypes.PNFTMeta"` -/
def pnftTypeUrl : Bytes := [112, 110, 102, 116, 116, 121, 112, 101, 115, 46, 80, 78, 70, 84, 77, 101, 116, 97]

def metaOf (p : pnfttypes.Pnft) : pnfttypes.PNFTMeta :=
  { Name := p.Name, Description := p.Description, Creator := p.Creator, CreatedAt := p.CreatedAt, Data := p.Data }

/-- what `ImportPNFT` hands to `Nft.mint` for `p` -/
def sdkOf (p : pnfttypes.Pnft) (classId : Bytes) : Nft.NFT :=
  { ClassId := classId, Id := p.Id, Uri := p.Uri, UriHash := p.UriHash,
    Data := some { TypeUrl := pnftTypeUrl, Value := Go.Proto.marshal (metaOf p) } }

/-- `InitGenesis`, one token: minted to the account its owner text decodes to, with its recorded creation time (F10) -/
def importP (bech : Go.Bech32) (w : Nft.World) (p : pnfttypes.Pnft) : P Nft.World :=
  match bech.dec p.Owner with
  | none => P.panic "err"
  | some o => if (Nft.mint w (sdkOf p p.DenomId) o).2.isNone then P.ok (Nft.mint w (sdkOf p p.DenomId) o).1 else P.panic "err"

theorem importPNFT_run (bech : Go.Bech32) (w : Nft.World) (p : pnfttypes.Pnft) :
    pnftkeeper.Keeper.ImportPNFT bech (some p) w =
      P.ok (match bech.dec p.Owner with
        | none => (some "bech32", w)
        | some o => ((Nft.mint w (sdkOf p p.DenomId) o).2, (Nft.mint w (sdkOf p p.DenomId) o).1)) := by
  unfold pnftkeeper.Keeper.ImportPNFT
  rcases Go.acc_cases bech p.Owner with ⟨o, hd, hg⟩ | ⟨hd, hg⟩
  · simp only [go_eval, hg, hd]
    rfl
  · simp only [go_eval, hg, hd]

theorem initGenesis_run (bech : Go.Bech32) (ds : List pnfttypes.Denom) (ps : List pnfttypes.Pnft) (w0 : Nft.World) :
    pnft.InitGenesis bech { Denoms := ds.map some, Pnfts := ps.map some } w0 =
      (ds.foldlM importD w0) >>= fun w1 => ps.foldlM (importP bech) w1 := by
  unfold pnft.InitGenesis
  dsimp only
  rw [forIn_foldlM_map some ds importD _ ?_ w0]
  · cases ds.foldlM importD w0 with
    | panic e => rfl
    | ok w1 =>
      simp only [P.ok_bind]
      rw [forIn_foldlM_map some ps (importP bech) _ ?_ w1]
      · cases ps.foldlM (importP bech) w1 <;> rfl
      · intro p _ s
        simp only [importPNFT_run, P.ok_bind, importP]
        cases bech.dec p.Owner with
        | none => rfl
        | some o =>
          rcases Bool.eq_false_or_eq_true (Nft.mint s (sdkOf p p.DenomId) o).2.isNone with h | h <;>
            simp only [h, go_eval]
  · intro d _ s
    simp only [saveDenom_run, P.ok_bind, importD]
    cases Nft.hasClass s d.Id <;> rfl
end
end Panacea.Refine.Pnft
