import Panacea.Generated.Code
import Panacea.Model.CompKey
import Panacea.Lemmas.CompKey
import Panacea.Refine.Basic
/-!
# Refinement: the translated `types/compkey` functions compute the hand-written model

Each loop: an induction about any body that does in one iteration what the model does in one step of its recursion
(`fill_loop`, `decode_loop`), and that fact about the translated body, proved where `generalize` has named it.
-/
namespace Panacea.Refine.CompKey
open Panacea Panacea.Gen Panacea.Go

/-- The buffer size the first loop of `encode` computes: one length byte per component plus the component. -/
def szOf : List Bytes → Nat
  | [] => 0
  | v :: vs => 1 + v.length + szOf vs

theorem size_loop (vs : List Bytes) (s : Int) :
    (forIn vs s fun value __s => (pure (ForInStep.yield (__s + (1 + Go.len value))) : P _)) = P.ok (s + szOf vs) := by
  induction vs generalizing s with
  | nil => simp [szOf]
  | cons v vs ih =>
    simp only [List.forIn_cons, pure_bind]
    rw [ih]
    simp [szOf, Go.len]
    omega

theorem copyAt_append (pre pad v : Bytes) (h : v.length ≤ pad.length) :
    Go.copyAt (pre ++ pad) (pre.length : Int) v = P.ok (pre ++ v ++ pad.drop v.length, (v.length : Int)) :=
  Go.copyAt_append pre pad v h

theorem make_ok (n : Nat) : (Go.make (n : Int) : P Bytes) = P.ok (List.replicate n default) := Go.make_ok n

theorem copy_full (s : Bytes) (n : Nat) (h : s.length = n) :
    Go.copyAt (List.replicate n (default : UInt8)) 0 s = P.ok (s, (n : Int)) :=
  Go.copy_full s n h

def tooLong : Go.Err := some "fmt:the size of value must be in uint8"

def encodeSpec (vs : List Bytes) : Bytes × Go.Err :=
  match CompKey.encode vs with
  | some r => (r, none)
  | none => ([], tooLong)

/-- `hb`: one iteration on a buffer with room for the component.  `junk`: buffer and index at the error exit, which
nothing reads. -/
theorem fill_loop {body : Bytes → Option (Bytes × Go.Err) × Bytes × Int → P (ForInStep _)}
    (hb : ∀ (v pre ps : Bytes) (p : UInt8), v.length ≤ ps.length →
      body v (none, pre ++ p :: ps, (pre.length : Int)) = P.ok (
        if v.length > 255 then .done (some (default, tooLong), pre ++ p :: ps, (pre.length : Int))
        else .yield (none, pre ++ [UInt8.ofNat v.length] ++ v ++ ps.drop v.length,
          ((pre ++ [UInt8.ofNat v.length] ++ v).length : Int))))
    (vs : List Bytes) : ∀ (pre pad : Bytes), pad.length = szOf vs →
    ∃ junk, forIn vs (none, pre ++ pad, (pre.length : Int)) body = P.ok (
      match (CompKey.encode vs).map (pre ++ ·) with
      | some b => (none, b, (b.length : Int))
      | none => (some (default, tooLong), junk)) := by
  induction vs with
  | nil =>
    intro pre pad hsz
    cases List.eq_nil_of_length_eq_zero hsz
    exact ⟨default, by simp [CompKey.encode]⟩
  | cons v vs ih =>
    intro pre pad hsz
    cases pad with
    | nil =>
      simp only [szOf, List.length_nil] at hsz
      omega
    | cons p ps =>
      simp only [szOf, List.length_cons] at hsz
      rw [List.forIn_cons, hb v pre ps p (by omega), CompKey.encode_cons]
      by_cases hv : v.length > 255
      · rw [if_pos hv, if_pos hv]
        exact ⟨_, rfl⟩
      · rw [if_neg hv, if_neg hv]
        have hps : (ps.drop v.length).length = szOf vs := by
          rw [List.length_drop]
          omega
        have ⟨junk, hs⟩ := ih (pre ++ [UInt8.ofNat v.length] ++ v) (ps.drop v.length) hps
        exact ⟨junk, by simpa only [P.ok_bind, Option.map_map, Function.comp_def, List.append_assoc,
          List.cons_append, List.nil_append] using hs⟩

/-- **`compkey.encode` refines the model**: never panics; returns the model's bytes, or the error exactly
when the model rejects (a component longer than 255 bytes). -/
theorem encode_refines (vs : List Bytes) : compkey.encode vs = P.ok (encodeSpec vs) := by
  unfold compkey.encode encodeSpec
  simp only [bind_pure_comp, size_loop, Int.zero_add, make_ok, P.ok_bind]
  generalize hbody : (fun (value_1 : Bytes) (__s : Option (Bytes × Go.Err) × Bytes × Int) => _) = body
  refine (fill_loop (body := body) ?_ vs [] (List.replicate (szOf vs) default) (by simp)).elim fun junk hs => ?_
  · intro v pre ps p h
    have e1 : (pre.length : Int) + 1 = ((pre ++ [UInt8.ofNat v.length]).length : Int) := by
      simp
    have e2 : ((pre ++ [UInt8.ofNat v.length]).length : Int) + (v.length : Int)
        = ((pre ++ [UInt8.ofNat v.length] ++ v).length : Int) := by
      rw [List.length_append (as := pre ++ [UInt8.ofNat v.length]), Int.natCast_add]
    subst hbody
    dsimp only
    rw [toU8_len]
    unfold Go.len
    by_cases hv : v.length > 255
    · rw [if_pos (decide_eq_true (by omega)), if_pos hv]
      rfl
    · rw [if_neg (mt of_decide_eq_true (by omega)), if_neg hv, setIdx_append]
      simp only [P.ok_bind, e1, Go.copyAt_append _ _ _ h, P.map_ok, e2]
  · simp only [List.nil_append, List.length_nil, Int.cast_ofNat_Int] at hs
    rw [hs]
    cases CompKey.encode vs <;> rfl

def failed : Go.Err := some "fmt:failed to decode composite key"

/-- `hnil`, `hcons`: one iteration at the end of `bz`, and at a length byte.  One iteration of fuel per element of `l`;
`junk`: the rest of the state at the error exit, which nothing reads. -/
theorem decode_loop {κ : Type} {out : κ} {bz : Bytes}
    {body : Nat → Option (Go.Err × κ) × List Bytes × Int × Bool → P (ForInStep _)}
    (hnil : ∀ x values, body x (none, values, (bz.length : Int), false) = P.ok (.done (none, values, (bz.length : Int), true)))
    (hcons : ∀ pre n rest x values, bz = pre ++ n :: rest →
      body x (none, values, (pre.length : Int), false) = P.ok (
        if n.toNat > rest.length then .done (some (failed, out), values, (pre.length : Int) + 1, false)
        else .yield (none, values ++ [rest.take n.toNat], ((pre ++ n :: rest.take n.toNat).length : Int), false)))
    (l : List Nat) : ∀ (pre rem : Bytes) (values : List Bytes), bz = pre ++ rem → rem.length < l.length →
    ∃ junk, forIn l (none, values, (pre.length : Int), false) body = P.ok (
      match (CompKey.decodeAux l.length rem).map (values ++ ·) with
      | some all => (none, all, (bz.length : Int), true)
      | none => (some (failed, out), junk)) := by
  induction l with
  | nil =>
    intro _ _ _ _ h
    cases h
  | cons a l ih =>
    intro pre rem values hbz hn
    rw [List.forIn_cons, List.length_cons]
    cases rem with
    | nil =>
      rw [List.append_nil] at hbz
      rw [← hbz, hnil, CompKey.decodeAux]
      exact ⟨default, by simp⟩
    | cons n rest =>
      rw [hcons pre n rest a values hbz, CompKey.decodeAux_cons]
      by_cases hx : n.toNat > rest.length
      · rw [if_pos hx, if_pos hx]
        exact ⟨_, rfl⟩
      · rw [if_neg hx, if_neg hx]
        have e : bz = (pre ++ n :: rest.take n.toNat) ++ rest.drop n.toNat := by
          simp [hbz]
        have hfuel : (rest.drop n.toNat).length < l.length := by
          simp only [List.length_cons] at hn
          rw [List.length_drop]
          omega
        have ⟨junk, hs⟩ := ih (pre ++ n :: rest.take n.toNat) (rest.drop n.toNat) (values ++ [rest.take n.toNat]) e hfuel
        exact ⟨junk, by simpa only [P.ok_bind, Option.map_map, Function.comp_def, List.append_assoc,
          List.cons_append, List.nil_append] using hs⟩

def decodeSpec {κ : Type} (I : compkey.CompositeKey κ) (bz : Bytes) (out : κ) : P (Go.Err × κ) :=
  match CompKey.decode bz with
  | none => P.ok (failed, out)
  | some vs => I.FromByteSlices out vs

/-- **`compkey.Decode` refines the model**: the fuel suffices, no index or slice bound is violated, and the
result is the model's component list handed to `FromByteSlices`, or the decoding error exactly when the
model rejects. -/
theorem decode_refines {κ : Type} (I : compkey.CompositeKey κ) (bz : Bytes) (out : κ) :
    compkey.Decode I bz out = decodeSpec I bz out := by
  unfold compkey.Decode decodeSpec CompKey.decode
  simp only [bind_pure_comp, Go.make0, P.ok_bind]
  generalize hbody : (fun (x : Nat) (__s : Option (Go.Err × κ) × List Bytes × Int × Bool) => _) = body
  refine (decode_loop (out := out) (bz := bz) (body := body) ?_ ?_ (List.range (bz.length + 1)) [] bz [] rfl
    (by simp)).elim fun junk hs => ?_
  · intro x values
    subst hbody
    dsimp only
    unfold Go.len
    rw [if_pos (by simp)]
    rfl
  · intro pre n rest x values hbz
    have hd : (pre ++ n :: rest).drop (pre.length + 1) = rest := by
      simp
    have hlen : ((pre ++ n :: rest).length : Int) = (pre.length : Int) + 1 + (rest.length : Int) := by
      simp
      omega
    have hin : ¬ (!decide ((pre.length : Int) < (pre.length : Int) + 1 + (rest.length : Int))) = true := by
      simp
      omega
    subst hbody hbz
    dsimp only
    unfold Go.len
    rw [hlen, if_neg hin, idx_append]
    simp only [P.ok_bind]
    by_cases hx : n.toNat > rest.length
    · rw [if_pos (decide_eq_true (by omega)), if_pos hx]
      rfl
    · have hl : (rest.take n.toNat).length = n.toNat := List.length_take_of_le (by omega)
      have hs : pre.length + 1 + n.toNat ≤ (pre ++ n :: rest).length := by
        simp
        omega
      rw [if_neg (mt of_decide_eq_true (by omega)), if_neg hx, Go.make_ok]
      rw [show (pre.length : Int) + 1 = ((pre.length + 1 : Nat) : Int) from rfl,
        show ((pre.length + 1 : Nat) : Int) + (n.toNat : Int) = ((pre.length + 1 + n.toNat : Nat) : Int) from rfl,
        slice_ok _ _ _ hs, hd]
      simp only [P.ok_bind, Go.copy_full _ _ hl, P.map_ok, List.length_append, List.length_cons, hl,
        show ((pre.length + 1 : Nat) : Int) + (n.toNat : Int) = ((pre.length + (n.toNat + 1) : Nat) : Int) by omega]
  · simp only [List.nil_append, List.length_nil, Int.cast_ofNat_Int, List.length_range] at hs
    simp only [hs, P.ok_bind]
    cases CompKey.decodeAux (bz.length + 1) bz with
    | none => rfl
    | some vs =>
      simp only [Option.map_some, Bool.not_true, Bool.false_eq_true, if_false]
      cases I.FromByteSlices out vs <;> rfl

end Panacea.Refine.CompKey
