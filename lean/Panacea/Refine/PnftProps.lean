import Panacea.Refine.Pnft
import Panacea.Properties.C06
import Panacea.Properties.C12
/-!
# C06 and C12 for the translated `x/pnft` code

The model's theorems of `Properties/C06.lean` and `Properties/C12.lean`, composed with the simulation of
`Refine/Pnft.lean`: statements about the translated `Gen.pnftkeeper.msgServer.*` over the raw `x/nft` world.
-/
namespace Panacea.Refine.Pnft
open Panacea Panacea.Gen Panacea.Go Panacea.Validate
section
variable [Go.Proto pnfttypes.DenomMeta] [Go.Proto pnfttypes.PNFTMeta]
variable [Go.LawfulProto pnfttypes.DenomMeta] [Go.LawfulProto pnfttypes.PNFTMeta]
set_option linter.unusedSectionVars false

/-- **C06 on the translated code, denoms**: `UpdateDenom`, `DeleteDenom`, `TransferDenom` and `MintPNFT` of the
translated message server return a nil error only when the signer named in the message is the owner recorded
in the stored class at that moment. -/
theorem translated_denom_ops_require_current_owner (bech : Go.Bech32) (w w' : Nft.World) (hwf : WF w) :
    (∀ (m : pnfttypes.MsgUpdateDenomRequest) v,
      pnftkeeper.msgServer.UpdateDenom bech (some m) w = P.ok (some v, none, w') →
      ∃ c, w.classes.get m.Id = some c ∧ m.Updater = (metaD c).Owner) ∧
    (∀ (m : pnfttypes.MsgDeleteDenomRequest) v,
      pnftkeeper.msgServer.DeleteDenom bech (some m) w = P.ok (some v, none, w') →
      ∃ c, w.classes.get m.Id = some c ∧ m.Remover = (metaD c).Owner) ∧
    (∀ (m : pnfttypes.MsgTransferDenomRequest) v,
      pnftkeeper.msgServer.TransferDenom bech (some m) w = P.ok (some v, none, w') →
      ∃ c, w.classes.get m.Id = some c ∧ m.Sender = (metaD c).Owner) ∧
    (∀ (m : pnfttypes.MsgMintPNFTRequest) v,
      pnftkeeper.msgServer.MintPNFT bech (some m) w = P.ok (some v, none, w') →
      ∃ c, w.classes.get m.DenomId = some c ∧ m.Creator = (metaD c).Owner) := by
  have lift : ∀ {id who : Bytes}, (∃ d, (abs w).classes.get id = some d ∧ who = d.owner) →
      ∃ c, w.classes.get id = some c ∧ who = (metaD c).Owner := by
    rintro id who ⟨d, hd, hw⟩
    rw [getClass_abs] at hd
    obtain ⟨c, hc, rfl⟩ := Option.map_eq_some_iff.mp hd
    exact ⟨c, hc, hw⟩
  have model := fun now => C06.denom_ops_require_current_owner (codec bech) now (abs w) (abs w')
  -- the time is arbitrary for every handler but mint, whose refinement fixes it to the header time
  obtain ⟨update, delete, transfer, _⟩ := model 0
  obtain ⟨_, _, _, mint⟩ := model w.blockTimeNano
  exact ⟨fun m _ hg => lift (update m.Id m.Name m.Symbol m.Description m.Uri m.UriHash m.Data m.Updater
      (simP_accept (updateDenom_refines bech 0 w hwf m) hg).1),
    fun m _ hg => lift (delete m.Id m.Remover (simP_accept (deleteDenom_refines bech 0 w hwf m) hg).1),
    fun m _ hg => lift (transfer m.Id m.Sender m.Receiver (simP_accept (transferDenom_refines bech 0 w hwf m) hg).1),
    fun m _ hg => lift (mint m.DenomId m.Id m.Name m.Description m.Uri m.UriHash m.Data m.Creator
      (simP_accept (mint_refines bech w hwf m) hg).1)⟩

/-- **C06 on the translated code, tokens**: `TransferPNFT` and `BurnPNFT` return a nil error only for an existing
token whose owner entry, rendered as text, is the signer named in the message. -/
theorem translated_token_ops_require_current_owner (bech : Go.Bech32) (he : EncNil bech) (w w' : Nft.World)
    (hwf : WF w) :
    (∀ (m : pnfttypes.MsgTransferPNFTRequest) v,
      pnftkeeper.msgServer.TransferPNFT bech (some m) w = P.ok (some v, none, w') →
      (w.nfts.get (Pnft.nftKey m.DenomId m.Id)).isSome = true ∧ m.Sender = bech.enc (Nft.getOwner w m.DenomId m.Id)) ∧
    (∀ (m : pnfttypes.MsgBurnPNFTRequest) v,
      pnftkeeper.msgServer.BurnPNFT bech (some m) w = P.ok (some v, none, w') →
      (w.nfts.get (Pnft.nftKey m.DenomId m.Id)).isSome = true ∧ m.Burner = bech.enc (Nft.getOwner w m.DenomId m.Id)) := by
  have lift : ∀ {d i who : Bytes}, ((abs w).nfts.get (Pnft.nftKey d i)).isSome = true ∧
        who = Pnft.ownerText (codec bech) (Pnft.getOwner (abs w) d i) →
      (w.nfts.get (Pnft.nftKey d i)).isSome = true ∧ who = bech.enc (Nft.getOwner w d i) := by
    rintro d i who ⟨h1, h2⟩
    rw [getNft_abs, Option.isSome_map] at h1
    rw [ownerText_eq bech he] at h2
    exact ⟨h1, h2⟩
  obtain ⟨transfer, burn⟩ := C06.token_ops_require_current_owner (codec bech) 0 (abs w) (abs w')
  exact ⟨fun m _ hg => lift (transfer m.DenomId m.Id m.Sender m.Receiver
      (simP_accept (transfer_refines bech he 0 w hwf m) hg).1),
    fun m _ hg => lift (burn m.DenomId m.Id m.Burner (simP_accept (burn_refines bech he 0 w hwf m) hg).1)⟩

/-- `B` bounds the tokens the world has: the history must leave the supply counters room -/
theorem translated_invariants_kept (bech : Go.Bech32) (he : EncNil bech) (hd : Pnft.DecShort (codec bech))
    (w : Nft.World) (hwf : WF w) (B : Nat) (hp : Pnft.PInv (abs w)) (hi : Pnft.OInv (abs w)) (hb : Pnft.Below (abs w) B)
    (ops : List (Int × Req)) (hlen : B + ops.length < 2 ^ 64) :
    Pnft.PInv (abs (ops.foldl (goStep bech) w)) ∧ Pnft.OInv (abs (ops.foldl (goStep bech) w)) ∧
      WF (ops.foldl (goStep bech) w) := by
  obtain ⟨ha, hw⟩ := goRun_abs bech he ops w hwf
  rw [ha]
  have := C12.invariants_reachable (codec bech) hd (abs w) B (ops.map fun o => (o.1, o.2.toMsg)) hp hi hb
    (by simpa using hlen)
  exact ⟨this.1, this.2, hw⟩

/-- **C12 on the translated code**: after any history (shorter than 2⁶⁴) of the translated message server from the
empty store, the state the raw world stands for has the counting invariant (`Pnft.PInv`: supply = number of tokens of
the denom) and the owner-index invariant (`Pnft.OInv`: one owner entry and one index entry per token). -/
theorem translated_history_invariants (bech : Go.Bech32) (he : EncNil bech) (hd : Pnft.DecShort (codec bech))
    (ops : List (Int × Req)) (hlen : ops.length < 2 ^ 64) :
    Pnft.PInv (abs (ops.foldl (goStep bech) {})) ∧ Pnft.OInv (abs (ops.foldl (goStep bech) {})) ∧
      WF (ops.foldl (goStep bech) {}) :=
  translated_invariants_kept bech he hd {} wf_empty 0 C12.pinv_genesis C12.oinv_genesis (Nat.le_refl 0) ops
    (by simpa using hlen)

end
end Panacea.Refine.Pnft
