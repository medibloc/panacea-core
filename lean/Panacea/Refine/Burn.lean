import Panacea.Generated.Code
import Panacea.Model.Bank
import Panacea.Refine.Basic
/-!
# The translated `x/burn` keeper is the model's end-blocker

`BurnCoins` (`/repo/x/burn/keeper/burn.go`) runs against the hand-written model `Bank` of x/bank (tie D).  Whatever it
returns (the end-blocker only logs the error), it leaves the bank in the state `Bank.burnEndBlock` describes, the
function the theorems of C07 are about.
-/
namespace Panacea.Refine.Burn
open Panacea Panacea.Gen Panacea.Go

def burnName : Bytes := [98, 117, 114, 110]   -- "burn"

theorem burnCoins_eq (bech : Go.Bech32) (acc : Bytes) (w : BankWorld) :
    burnkeeper.Keeper.BurnCoins bech acc w = P.ok (match bech.dec acc with
      | none => (some "bech32", w)
      | some a =>
        (if Bank.spendableCoins w.st a = [] ∨
            (Bank.sendCoins w.st a (w.moduleAddr burnName) (Bank.spendableCoins w.st a)).2 = true then none
          else some "sdk/5",
         { w with st := Bank.burnEndBlock w.st a (w.moduleAddr burnName) })) := by
  unfold burnkeeper.Keeper.BurnCoins Bank.burnEndBlock
  rcases acc_cases bech acc with ⟨a, hdec, hg⟩ | ⟨hdec, hg⟩
  case inr =>
    simp only [hg, hdec]
    rfl
  case inl =>
    simp only [hg, hdec, go_eval, Go.bankSpendableCoins]
    cases hc : Bank.spendableCoins w.st a with
    | nil => rfl
    | cons c cs =>
      simp only [List.isEmpty_cons, go_eval, Go.bankSendToModule, Go.bankBurnCoins, ← burnName.eq_1]
      rw [if_neg (List.cons_ne_nil c cs)]
      rcases Bank.sendCoins w.st a (w.moduleAddr burnName) (c :: cs) with ⟨s1, _ | _⟩ <;> rfl

theorem burnCoins_refines (bech : Go.Bech32) (acc burnAddr : Bytes) (w : BankWorld)
    (hdec : bech.dec acc = some burnAddr) :
    ∃ e, burnkeeper.Keeper.BurnCoins bech acc w =
      P.ok (e, { w with st := Bank.burnEndBlock w.st burnAddr (w.moduleAddr burnName) }) := by
  rw [burnCoins_eq, hdec]
  exact ⟨_, rfl⟩

/-- an address that does not decode: nothing happens (the end-blocker logs the error) -/
theorem burnCoins_bad_address (bech : Go.Bech32) (acc : Bytes) (w : BankWorld) (hdec : bech.dec acc = none) :
    ∃ e, burnkeeper.Keeper.BurnCoins bech acc w = P.ok (e, w) := by
  rw [burnCoins_eq, hdec]
  exact ⟨_, rfl⟩

end Panacea.Refine.Burn
