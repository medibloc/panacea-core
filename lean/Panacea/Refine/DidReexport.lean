import Panacea.Refine.DidReach
/-!
# The imported chain's own export is identical (x/did)

C08 also says that the chain started from an export exports the same genesis again.  For x/did on the translated code:
the world `InitGenesis` builds from `ExportGenesis w` has the same identifiers in its store, each holding the re-encoded
entry, so its `ExportGenesis` returns exactly the genesis state it was started from.
-/
namespace Panacea.Refine.DidKeeper
open Panacea Panacea.Gen Panacea.Go Panacea.Refine.DidTypes
open Panacea.Refine.Aol (store_setStore)

section
variable [Go.Proto didtypes.DIDDocument]
variable [Go.Proto didtypes.DIDDocumentWithSeq] [Go.LawfulProto didtypes.DIDDocumentWithSeq]
set_option linter.unusedSectionVars false

theorem store_foldl_putD (l : List (Bytes × didtypes.DIDDocumentWithSeq)) (w : World) :
    (l.foldl putD w).store "did" =
      (l.map fun e => (([0] : Bytes) ++ e.1, (Go.Proto.marshal e.2 : Bytes))).foldl
        (fun (m : Map Bytes) e => m.set e.1 e.2) (w.store "did") :=
  And.left <| Go.foldl_refines (·.store "did") (fun _ => True) putD _ _ (fun _ _ _ => ⟨store_setStore .., trivial⟩) l w trivial

theorem exportEntries_of_store (w' : World) (l : List (Bytes × didtypes.DIDDocumentWithSeq))
    (hst : w'.store "did" = l.map fun e => (([0] : Bytes) ++ e.1, (Go.Proto.marshal e.2 : Bytes)))
    (hs : Map.Sorted (w'.store "did")) : exportEntries w' = l := by
  have hpv : (w'.store "did").prefixView [0] = l.map fun e => (e.1, (Go.Proto.marshal e.2 : Bytes)) := by
    rw [hst]
    have := Map.prefixView_prefixed ([0] : Bytes) (l.map fun e => (e.1, (Go.Proto.marshal e.2 : Bytes)))
    simpa [List.map_map, Function.comp_def] using this
  unfold exportEntries
  rw [hpv, List.map_map]
  conv => rhs; rw [← List.map_id l]
  apply List.map_congr_left
  intro e he
  have hm : (([0] : Bytes) ++ e.1, (Go.Proto.marshal e.2 : Bytes)) ∈ w'.store "did" := by
    rw [hst]
    exact List.mem_map.mpr ⟨e, he, rfl⟩
  simp only [Function.comp_apply, id, readD_of_mem hs hm, Go.LawfulProto.unmarshal_marshal, Option.getD_some]

theorem sorted_reencoded (w : World) (hwf : WFD w) :
    Map.Sorted ((exportEntries w).map fun e => (([0] : Bytes) ++ e.1, (Go.Proto.marshal e.2 : Bytes))) := by
  have h0 : Map.Sorted ((exportEntries w).map fun e => (e.1, (Go.Proto.marshal e.2 : Bytes))) := by
    have := prefixView_sorted (w.store "did") hwf.sorted [0]
    unfold exportEntries Map.Sorted Map.keys at *
    simpa [List.map_map, Function.comp_def] using this
  have := Map.sorted_prefixed ([0] : Bytes) _ h0
  simpa [List.map_map, Function.comp_def] using this

/-- the raw store of the world imported from the export of `w`: the same identifiers, each with its entry re-encoded -/
theorem imported_store (w : World) (hwf : WFD w) :
    ((exportEntries w).foldl putD ({} : World)).store "did" =
      (exportEntries w).map fun e => (([0] : Bytes) ++ e.1, (Go.Proto.marshal e.2 : Bytes)) := by
  rw [store_foldl_putD]
  have h0 : ({} : World).store "did" = [] := rfl
  rw [h0]
  exact Panacea.C08.rebuild_sorted _ ([] : Map Bytes) (by simpa using sorted_reencoded w hwf)

theorem exportEntries_imported (w : World) (hwf : WFD w) :
    exportEntries ((exportEntries w).foldl putD ({} : World)) = exportEntries w :=
  exportEntries_of_store _ _ (imported_store w hwf) (imported_store w hwf ▸ sorted_reencoded w hwf)

/-- **C08 for x/did, complete**: export, import into an empty store, and the imported world's own export — identical to
the first.  (`cf`: the three facts about the protobuf encoding of documents that the handler theorems use too.) -/
theorem genesis_roundtrip_reexport (cf : CodecFacts) (w : World) (hwf : WFD w) :
    ∃ g w', did.ExportGenesis w = P.ok (some g, w) ∧ did.InitGenesis g ({} : World) = P.ok w' ∧ absD w' = absD w ∧
      did.ExportGenesis w' = P.ok (some g, w') := by
  refine ⟨{ Documents := entriesOf (exportEntries w) }, (exportEntries w).foldl putD ({} : World),
    exportGenesis_run w hwf, initGenesis_run _ _, import_export_abs w hwf, ?_⟩
  rw [exportGenesis_run _ (wfd_imported cf w hwf), exportEntries_imported w hwf]

theorem reachable_genesis_roundtrip_reexport (crypto : Go.SigScheme) (cf : CodecFacts) (ops : List DMsg)
    (hops : ∀ op ∈ ops, op.WellFormed) :
    ∃ g w', did.ExportGenesis (dRun crypto ({} : World) ops) = P.ok (some g, dRun crypto ({} : World) ops) ∧
      did.InitGenesis g ({} : World) = P.ok w' ∧ absD w' = absD (dRun crypto ({} : World) ops) ∧
      did.ExportGenesis w' = P.ok (some g, w') :=
  genesis_roundtrip_reexport cf _ (dRun_wfd crypto cf ops hops _ wfd_empty)

end
end Panacea.Refine.DidKeeper
