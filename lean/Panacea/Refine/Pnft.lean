import Panacea.Generated.Code
import Panacea.Model.Pnft
import Panacea.Lemmas.MapVals
import Panacea.Refine.Basic
/-!
# `x/pnft`: the translated validators, keeper and message server compute the model

The SDK's `x/nft` keeper they call is the hand-written `Go.Nft` (tie D); `abs` decodes the `Any` payloads (`DenomMeta` /
`PNFTMeta`) of a raw world into the state of `Model/Pnft.lean`.  Parameters, not axioms: the bech32 codec (`EncNil`)
and the protobuf codec of the payloads (`LawfulProto`).
-/
namespace Panacea.Refine.Pnft
open Panacea Panacea.Gen Panacea.Go Panacea.Validate

def toCreateDenom (m : pnfttypes.MsgCreateDenomRequest) : PnftMsg :=
  .createDenom m.Id m.Name m.Symbol m.Description m.Uri m.UriHash m.Data m.Creator
def toUpdateDenom (m : pnfttypes.MsgUpdateDenomRequest) : PnftMsg :=
  .updateDenom m.Id m.Name m.Symbol m.Description m.Uri m.UriHash m.Data m.Updater
def toDeleteDenom (m : pnfttypes.MsgDeleteDenomRequest) : PnftMsg := .deleteDenom m.Id m.Remover
def toTransferDenom (m : pnfttypes.MsgTransferDenomRequest) : PnftMsg := .transferDenom m.Id m.Sender m.Receiver
def toMint (m : pnfttypes.MsgMintPNFTRequest) : PnftMsg :=
  .mintPNFT m.DenomId m.Id m.Name m.Description m.Uri m.UriHash m.Data m.Creator
def toTransfer (m : pnfttypes.MsgTransferPNFTRequest) : PnftMsg := .transferPNFT m.DenomId m.Id m.Sender m.Receiver
def toBurn (m : pnfttypes.MsgBurnPNFTRequest) : PnftMsg := .burnPNFT m.DenomId m.Id m.Burner

theorem deref_some {α : Type} (site : String) (a : α) : Go.deref site (some a) = P.ok a := Go.deref_some site a

def codec (bech : Go.Bech32) : CompKey.AddrCodec := { enc := bech.enc, dec := bech.dec }

/-- the seven `…_vb` compare accept / reject / panic only, not which error -/
def res : P Go.Err → Option Bool
  | .ok e => some e.isNone
  | .panic _ => none

def okOrErr : Outcome Unit → Option Bool
  | .ok _ => some true
  | .err _ => some false
  | .panic _ => none

theorem res_ok (e : Go.Err) : res (P.ok e) = some e.isNone := rfl

/-! When a `…_vb` below stops closing, the goal left shows where the two nests of conditionals first differ. -/

theorem res_check (c : Prop) [Decidable c] (e : Go.Error) (g : P Go.Err) :
    res (if c then P.ok (some e) else g) = if c then some false else res g := by
  split <;> rfl

theorem res_nil : res (P.ok (default : Go.Err)) = some true := rfl

theorem res_addr (bech : Go.Bech32) (a : Bytes) (g : P Go.Err) :
    res (if (!(Go.accAddressFromBech32 bech a).2.isNone) = true then P.ok (Go.accAddressFromBech32 bech a).2 else g) =
      if (bech.dec a).isSome = true then res g else some false := by
  rcases Go.acc_cases bech a with ⟨x, hd, hg⟩ | ⟨hd, hg⟩ <;> rw [hg, hd] <;> rfl

theorem okOrErr_reject (c : Prop) [Decidable c] (e : String) (o : Outcome Unit) :
    okOrErr ((if c then Outcome.err e else .ok ()) >>= fun _ => o) = if c then some false else okOrErr o := by
  split <;> rfl

theorem okOrErr_require (c : Prop) [Decidable c] (e : String) (o : Outcome Unit) :
    okOrErr ((if c then Outcome.ok () else .err e) >>= fun _ => o) = if c then okOrErr o else some false := by
  split <;> rfl

theorem okOrErr_require_last (c : Prop) [Decidable c] (e : String) :
    okOrErr (if c then Outcome.ok () else .err e) = if c then some true else some false := by
  split <;> rfl

section
attribute [local go_eval] res_check res_nil res_addr okOrErr_reject okOrErr_require okOrErr_require_last

theorem createDenom_vb (bech : Go.Bech32) (m : pnfttypes.MsgCreateDenomRequest) :
    res (pnfttypes.MsgCreateDenomRequest.ValidateBasic bech (some m)) =
      okOrErr (Pnft.validateBasic (codec bech) (toCreateDenom m)) := by
  show _ = okOrErr (pnftValidateBasic bech.dec (toCreateDenom m))
  unfold pnfttypes.MsgCreateDenomRequest.ValidateBasic pnftValidateBasic toCreateDenom
  simp only [go_eval, nonEmpty, noNul, pnftAddr, indexByte_nonneg]

theorem updateDenom_vb (bech : Go.Bech32) (m : pnfttypes.MsgUpdateDenomRequest) :
    res (pnfttypes.MsgUpdateDenomRequest.ValidateBasic bech (some m)) =
      okOrErr (Pnft.validateBasic (codec bech) (toUpdateDenom m)) := by
  show _ = okOrErr (pnftValidateBasic bech.dec (toUpdateDenom m))
  unfold pnfttypes.MsgUpdateDenomRequest.ValidateBasic pnftValidateBasic toUpdateDenom
  simp only [go_eval, nonEmpty, pnftAddr]

theorem deleteDenom_vb (bech : Go.Bech32) (m : pnfttypes.MsgDeleteDenomRequest) :
    res (pnfttypes.MsgDeleteDenomRequest.ValidateBasic bech (some m)) =
      okOrErr (Pnft.validateBasic (codec bech) (toDeleteDenom m)) := by
  show _ = okOrErr (pnftValidateBasic bech.dec (toDeleteDenom m))
  unfold pnfttypes.MsgDeleteDenomRequest.ValidateBasic pnftValidateBasic toDeleteDenom
  simp only [go_eval, nonEmpty, pnftAddr]

theorem transferDenom_vb (bech : Go.Bech32) (m : pnfttypes.MsgTransferDenomRequest) :
    res (pnfttypes.MsgTransferDenomRequest.ValidateBasic bech (some m)) =
      okOrErr (Pnft.validateBasic (codec bech) (toTransferDenom m)) := by
  show _ = okOrErr (pnftValidateBasic bech.dec (toTransferDenom m))
  unfold pnfttypes.MsgTransferDenomRequest.ValidateBasic pnftValidateBasic toTransferDenom
  simp only [go_eval, nonEmpty, pnftAddr]

theorem mint_vb (bech : Go.Bech32) (m : pnfttypes.MsgMintPNFTRequest) :
    res (pnfttypes.MsgMintPNFTRequest.ValidateBasic bech (some m)) =
      okOrErr (Pnft.validateBasic (codec bech) (toMint m)) := by
  show _ = okOrErr (pnftValidateBasic bech.dec (toMint m))
  unfold pnfttypes.MsgMintPNFTRequest.ValidateBasic pnftValidateBasic toMint
  simp only [go_eval, nonEmpty, noNul, pnftAddr, indexByte_nonneg, ite_not_or]

theorem transfer_vb (bech : Go.Bech32) (m : pnfttypes.MsgTransferPNFTRequest) :
    res (pnfttypes.MsgTransferPNFTRequest.ValidateBasic bech (some m)) =
      okOrErr (Pnft.validateBasic (codec bech) (toTransfer m)) := by
  show _ = okOrErr (pnftValidateBasic bech.dec (toTransfer m))
  unfold pnfttypes.MsgTransferPNFTRequest.ValidateBasic pnftValidateBasic toTransfer
  simp only [go_eval, nonEmpty, pnftAddr]

theorem burn_vb (bech : Go.Bech32) (m : pnfttypes.MsgBurnPNFTRequest) :
    res (pnfttypes.MsgBurnPNFTRequest.ValidateBasic bech (some m)) =
      okOrErr (Pnft.validateBasic (codec bech) (toBurn m)) := by
  show _ = okOrErr (pnftValidateBasic bech.dec (toBurn m))
  unfold pnfttypes.MsgBurnPNFTRequest.ValidateBasic pnftValidateBasic toBurn
  simp only [go_eval, nonEmpty, pnftAddr]

end

theorem vb_split {g : P Go.Err} {o : Outcome Unit} (h : res g = okOrErr o) :
    (o = .ok () ∧ g = P.ok none) ∨ (∃ c e, o = .err c ∧ g = P.ok (some e)) ∨ (∃ s t, o = .panic s ∧ g = P.panic t) := by
  rcases g with (_ | e) | s <;> rcases o with u | c | t <;> cases h
  · exact Or.inl ⟨rfl, rfl⟩
  · exact Or.inr (Or.inl ⟨c, e, rfl, rfl⟩)
  · exact Or.inr (Or.inr ⟨t, s, rfl, rfl⟩)

section keeper
variable [Go.Proto pnfttypes.DenomMeta] [Go.Proto pnfttypes.PNFTMeta]
set_option linter.unusedSectionVars false

/-- the zero value if the payload does not decode -/
def metaD (c : Nft.Class) : pnfttypes.DenomMeta :=
  (Go.unmarshalE (Go.anyValue c.Data) : pnfttypes.DenomMeta × Go.Err).1
def metaN (n : Nft.NFT) : pnfttypes.PNFTMeta :=
  (Go.unmarshalE (Go.anyValue n.Data) : pnfttypes.PNFTMeta × Go.Err).1

def toClass (c : Nft.Class) : Pnft.Class :=
  { id := c.Id, name := c.Name, symbol := c.Symbol, description := c.Description, uri := c.Uri, uriHash := c.UriHash,
    owner := (metaD c).Owner, data := (metaD c).Data }
def toNft (n : Nft.NFT) : Pnft.Nft :=
  { classId := n.ClassId, id := n.Id, uri := n.Uri, uriHash := n.UriHash, name := (metaN n).Name,
    description := (metaN n).Description, creator := (metaN n).Creator, createdAt := (metaN n).CreatedAt.nanos,
    data := (metaN n).Data }

def abs (w : Nft.World) : Pnft.State :=
  { classes := Map.mapVals toClass w.classes, nfts := Map.mapVals toNft w.nfts, ownerIdx := w.ownerIdx, owners := w.owners,
    supply := w.supply }

/-- `classDec`, `nftDec`: every `Any` payload decodes, as only the PNFT keeper writes them -/
structure WF (w : Nft.World) : Prop where
  classKey : ∀ k c, w.classes.get k = some c → c.Id = k
  classDec : ∀ k c, w.classes.get k = some c →
    (Go.unmarshalE (Go.anyValue c.Data) : pnfttypes.DenomMeta × Go.Err).2 = none
  nftDec : ∀ k n, w.nfts.get k = some n →
    (Go.unmarshalE (Go.anyValue n.Data) : pnfttypes.PNFTMeta × Go.Err).2 = none

/-- `types.NewDenomFromClass` -/
def denomOf (c : Nft.Class) : pnfttypes.Denom :=
  { Id := c.Id, Name := c.Name, Symbol := c.Symbol, Description := c.Description, Uri := c.Uri, UriHash := c.UriHash,
    Owner := (metaD c).Owner, Data := (metaD c).Data }

/-- `"pnfttypes.DenomMeta"` -/
def denomTypeUrl : Bytes := [112, 110, 102, 116, 116, 121, 112, 101, 115, 46, 68, 101, 110, 111, 109, 77, 101, 116, 97]

/-- `types.NewClassFromDenom` -/
def classOf (d : pnfttypes.Denom) : Nft.Class :=
  { Id := d.Id, Name := d.Name, Symbol := d.Symbol, Description := d.Description, Uri := d.Uri, UriHash := d.UriHash,
    Data := some { TypeUrl := denomTypeUrl, Value := Go.Proto.marshal ({ Owner := d.Owner, Data := d.Data } : pnfttypes.DenomMeta) } }

theorem newDenomFromClass_run (c : Nft.Class)
    (h : (Go.unmarshalE (Go.anyValue c.Data) : pnfttypes.DenomMeta × Go.Err).2 = none) :
    pnfttypes.NewDenomFromClass (some c) = P.ok (some (denomOf c), none) := by
  unfold pnfttypes.NewDenomFromClass
  simp only [go_eval, h]
  rfl

theorem newClassFromDenom_run (d : pnfttypes.Denom) :
    pnfttypes.NewClassFromDenom (some d) = P.ok (some (classOf d), none) := by
  unfold pnfttypes.NewClassFromDenom
  rfl

theorem getDenom_run (w : Nft.World) (hwf : WF w) (id : Bytes) :
    pnftkeeper.Keeper.GetDenom id w = P.ok (match w.classes.get id with
      | none => (none, some "fmt:not found class", w)
      | some c => (some (denomOf c), none, w)) := by
  unfold pnftkeeper.Keeper.GetDenom Nft.getClass
  rcases h : w.classes.get id with _ | c
  · simp only [h, go_eval]
    rfl
  · simp only [h, go_eval, newDenomFromClass_run c (hwf.classDec id c h)]

variable [Go.LawfulProto pnfttypes.DenomMeta] [Go.LawfulProto pnfttypes.PNFTMeta]

/-- the owner is looked up under the requested pair, not the stored token's -/
def pnftOf (bech : Go.Bech32) (w : Nft.World) (denomId id : Bytes) (n : Nft.NFT) : pnfttypes.Pnft :=
  { DenomId := n.ClassId, Id := n.Id, Name := (metaN n).Name, Description := (metaN n).Description, Uri := n.Uri,
    UriHash := n.UriHash, Data := (metaN n).Data, Creator := (metaN n).Creator,
    Owner := bech.enc (Nft.getOwner w denomId id), CreatedAt := (metaN n).CreatedAt }

/-- `AccAddress.String()` of the empty address is the empty string -/
def EncNil (bech : Go.Bech32) : Prop := bech.enc [] = []

theorem ownerText_eq (bech : Go.Bech32) (he : EncNil bech) (o : Bytes) : Pnft.ownerText (codec bech) o = bech.enc o := by
  unfold Pnft.ownerText
  by_cases h : o = []
  · rw [if_pos h, h]
    exact he.symm
  · rw [if_neg h]
    rfl

def toP (p : pnfttypes.Pnft) : Pnft.Pnft :=
  { denomId := p.DenomId, id := p.Id, name := p.Name, description := p.Description, uri := p.Uri, uriHash := p.UriHash,
    data := p.Data, creator := p.Creator, owner := p.Owner, createdAt := p.CreatedAt.nanos }

theorem toP_pnftOf (bech : Go.Bech32) (he : EncNil bech) (w : Nft.World) (d i : Bytes) (n : Nft.NFT) :
    toP (pnftOf bech w d i n) = Pnft.toPnft (codec bech) (abs w) d i (toNft n) := by
  unfold toP pnftOf Pnft.toPnft toNft
  simp only [ownerText_eq bech he]
  rfl

theorem hasClass_abs (w : Nft.World) (id : Bytes) : Pnft.hasClass (abs w) id = Nft.hasClass w id :=
  Map.has_mapVals toClass w.classes id

theorem getClass_abs (w : Nft.World) (id : Bytes) : (abs w).classes.get id = (w.classes.get id).map toClass :=
  Map.get_mapVals toClass w.classes id

theorem getNft_abs (w : Nft.World) (k : Bytes) : (abs w).nfts.get k = (w.nfts.get k).map toNft :=
  Map.get_mapVals toNft w.nfts k

theorem hasNFT_abs (w : Nft.World) (d i : Bytes) : Pnft.hasNFT (abs w) d i = Nft.hasNFT w d i :=
  Map.has_mapVals toNft w.nfts _

theorem getPNFT_abs (bech : Go.Bech32) (w : Nft.World) (d i : Bytes) :
    Pnft.getPNFT (codec bech) (abs w) d i =
      (w.nfts.get (Pnft.nftKey d i)).map fun n => Pnft.toPnft (codec bech) (abs w) d i (toNft n) := by
  unfold Pnft.getPNFT
  rw [getNft_abs]
  cases w.nfts.get (Pnft.nftKey d i) <;> rfl

theorem owner_abs (bech : Go.Bech32) (he : EncNil bech) (w : Nft.World) (d i : Bytes) (n : Nft.NFT) :
    (Pnft.toPnft (codec bech) (abs w) d i (toNft n)).owner = (pnftOf bech w d i n).Owner :=
  congrArg Pnft.Pnft.owner (toP_pnftOf bech he w d i n).symm

/-- every refusal, whatever the keeper's error, comes back wrapped in the message's one registered error `code`; the
model's error string is not compared.  Unlike `Refine.Aol.Sim`, nothing about the header time. -/
def SimP {ρ : Type} (code : Go.Err) (w : Nft.World) (g : P (Option ρ × Go.Err × Nft.World)) (m : Outcome Pnft.State) : Prop :=
  match m with
  | .ok s' => ∃ v w', g = P.ok (some v, none, w') ∧ abs w' = s' ∧ WF w'
  | .err _ => g = P.ok (none, Go.wrap code, w)
  | .panic _ => ∃ s, g = P.panic s

theorem simP_validate {ρ : Type} {code : Go.Err} {w : Nft.World} {c : CompKey.AddrCodec} {now : Int} {msg : PnftMsg}
    {v : P Go.Err} {k : P (Option ρ × Go.Err × Nft.World)} (hv : res v = okOrErr (Pnft.validateBasic c msg))
    (hok : Pnft.validateBasic c msg = .ok () → SimP code w k (Pnft.handle c now (abs w) msg)) :
    SimP code w (v >>= fun e => if (!e.isNone) = true then P.ok (none, Go.wrap code, w) else k)
      (Pnft.handle c now (abs w) msg) := by
  rcases vb_split hv with ⟨ho, hg⟩ | ⟨c', e, ho, hg⟩ | ⟨s, t, ho, hg⟩
  · rw [hg]
    exact hok ho
  · unfold Pnft.handle
    rw [hg, ho]
    rfl
  · unfold Pnft.handle
    rw [hg, ho]
    exact ⟨t, rfl⟩

/-- a keeper call against the rest of the model's handler: `refuse` = any error, the world untouched; `done` with `abs`
and `WF`.  No panic case: no keeper call panics on a well-formed world. -/
inductive Keeps (w : Nft.World) : P (Go.Err × Nft.World) → Outcome Pnft.State → Prop
  | refuse {e : Go.Error} {c : String} : Keeps w (P.ok (some e, w)) (.err c)
  | done {w' : Nft.World} {s' : Pnft.State} : abs w' = s' → WF w' → Keeps w (P.ok (none, w')) (.ok s')

theorem Keeps.ite {w : Nft.World} {c : Prop} [Decidable c] {e : Go.Error} {s : String} {g : P (Go.Err × Nft.World)}
    {M : Outcome Pnft.State} (h : ¬ c → Keeps w g M) :
    Keeps w (if c then P.ok (some e, w) else g) (if c then .err s else M) :=
  rel_ite (fun _ => .refuse) h

theorem Keeps.bind {τ : Type} {w : Nft.World} {g : P τ} {t : τ} {k : τ → P (Go.Err × Nft.World)}
    {M : Outcome Pnft.State} (hg : g = P.ok t) (h : Keeps w (k t) M) : Keeps w (g >>= k) M :=
  hg ▸ h

/-- the continuation is the ending every handler of the message server has:
`if err != nil { return nil, Wrap(code) }; return &Response{}, nil` -/
theorem simP_keeps {ρ : Type} [Inhabited ρ] {code : Go.Err} {w : Nft.World} {k : P (Go.Err × Nft.World)}
    {M : Outcome Pnft.State} (h : Keeps w k M) :
    SimP code w (k >>= fun t => if (!t.1.isNone) = true then P.ok ((default : Option ρ), Go.wrap code, t.2)
      else P.ok (some default, (default : Go.Err), t.2)) M := by
  cases h with
  | refuse => rfl
  | done ha hw => exact ⟨default, _, rfl, ha, hw⟩

/-- `NewAnyWithValue`, then `Unmarshal` -/
theorem unmarshalE_packed {G : Type} [Inhabited G] [Go.Proto G] [Go.LawfulProto G] (url : Bytes) (x : G) :
    (Go.unmarshalE (Go.anyValue (some { TypeUrl := url, Value := Go.Proto.marshal x })) : G × Go.Err) = (x, none) := by
  unfold Go.unmarshalE Go.anyValue
  simp only [Go.LawfulProto.unmarshal_marshal]

theorem toClass_classOf (d : pnfttypes.Denom) :
    toClass (classOf d) = Pnft.newClass d.Id d.Name d.Symbol d.Description d.Uri d.UriHash d.Data d.Owner := by
  simp only [toClass, metaD, classOf, unmarshalE_packed]
  rfl

theorem dec_classOf (d : pnfttypes.Denom) :
    (Go.unmarshalE (Go.anyValue (classOf d).Data) : pnfttypes.DenomMeta × Go.Err).2 = none :=
  congrArg Prod.snd (unmarshalE_packed _ _)

/-- the SDK's `UpdateClass` and `Mint` check `HasClass` again, under the stored class's own id: what `WF.classKey` is for -/
theorem WF.hasClass_id {w : Nft.World} (hwf : WF w) {k : Bytes} {c : Nft.Class} (h : w.classes.get k = some c) :
    Nft.hasClass w c.Id = true :=
  hwf.classKey k c h ▸ Map.has_true_iff.mpr ⟨c, h⟩

/-- `k` is separate: with `d.Id` in key position the unifier meets `?d.Id =?= c.Id` before `?d` is known -/
theorem Keeps.setClass {w : Nft.World} (hwf : WF w) {k : Bytes} (d : pnfttypes.Denom) (hk : d.Id = k) :
    Keeps w (P.ok (none, { w with classes := w.classes.set k (classOf d) }))
      (.ok { abs w with classes :=
        (abs w).classes.set k (Pnft.newClass d.Id d.Name d.Symbol d.Description d.Uri d.UriHash d.Data d.Owner) }) := by
  refine .done ?_
    ⟨Map.get_set_all hwf.classKey hk, Map.get_set_all hwf.classDec (dec_classOf d), hwf.nftDec⟩
  unfold abs
  simp only [Map.set_mapVals, toClass_classOf]

theorem classOf_Id (d : pnfttypes.Denom) : (classOf d).Id = d.Id := rfl
theorem denomOf_Id (c : Nft.Class) : (denomOf c).Id = c.Id := rfl

theorem saveDenom_run (w : Nft.World) (d : pnfttypes.Denom) :
    pnftkeeper.Keeper.SaveDenom (some d) w =
      P.ok (if Nft.hasClass w d.Id then (some "nft/3", w)
            else (none, { w with classes := w.classes.set d.Id (classOf d) })) := by
  unfold pnftkeeper.Keeper.SaveDenom Nft.saveClass
  simp only [newClassFromDenom_run, go_eval, classOf_Id]
  rcases Bool.eq_false_or_eq_true (Nft.hasClass w d.Id) with h | h
  · simp only [h, go_eval]
  · simp only [h, go_eval]

/-- in the seven `…_refines`, `now` is free except for mint: only `MintPNFT` reads the clock -/
theorem createDenom_refines (bech : Go.Bech32) (now : Int) (w : Nft.World) (hwf : WF w)
    (m : pnfttypes.MsgCreateDenomRequest) :
    SimP pnfttypes.ErrCreateDenom w (pnftkeeper.msgServer.CreateDenom bech (some m) w)
      (Pnft.handle (codec bech) now (abs w) (toCreateDenom m)) := by
  refine simP_validate (createDenom_vb bech m) fun hv => ?_
  unfold Pnft.handle
  rw [hv]
  simp only [toCreateDenom, go_eval, hasClass_abs]
  refine simP_keeps ?_
  simp only [saveDenom_run]
  cases Nft.hasClass w m.Id
  · exact .setClass hwf _ rfl
  · exact .refuse

/-- after `ite_cont` the six updates are one `Denom` chosen by conditionals; the model's `pick` is field-wise -/
theorem Denom.ite_eq (c : Prop) [Decidable c] (a b : pnfttypes.Denom) :
    (if c then a else b) =
      { Id := if c then a.Id else b.Id, Name := if c then a.Name else b.Name,
        Symbol := if c then a.Symbol else b.Symbol, Description := if c then a.Description else b.Description,
        Uri := if c then a.Uri else b.Uri, UriHash := if c then a.UriHash else b.UriHash,
        Owner := if c then a.Owner else b.Owner, Data := if c then a.Data else b.Data } := by
  split <;> rfl

theorem updateDenom_refines (bech : Go.Bech32) (now : Int) (w : Nft.World) (hwf : WF w)
    (m : pnfttypes.MsgUpdateDenomRequest) :
    SimP pnfttypes.ErrUpdateDenom w (pnftkeeper.msgServer.UpdateDenom bech (some m) w)
      (Pnft.handle (codec bech) now (abs w) (toUpdateDenom m)) := by
  refine simP_validate (updateDenom_vb bech m) fun hv => ?_
  unfold Pnft.handle
  rw [hv]
  simp only [toUpdateDenom, go_eval, getClass_abs]
  refine simP_keeps ?_
  unfold pnftkeeper.Keeper.UpdateDenom
  -- `if c { x = … }` on a `let mut` is a join point (`have __do_jp := fun x => rest; if c then __do_jp x' else __do_jp x`);
  -- `extract_lets` names the six `j2 … j7`, else `simp` substitutes them into 2⁶ copies of the tail.  All branches end in
  -- the same `j7 (some denom)`: with `j7` out of the simp set `ite_cont` merges them into one call on a conditional
  -- argument; then `j7`, the write, is entered.  One join point per line: all at once is slow to check.  Only the
  -- keeper's side (`arg 2`) is stepped.
  refine .bind (getDenom_run w hwf _) ?_
  rcases hc : w.classes.get m.Id with _ | c
  · exact .refuse
  · extract_lets world' denom err j7 j6 j5 j4 j3 j2
    simp only [denom, err, world', go_eval, ite_cont, Denom.ite_eq, ite_self]
    refine .ite fun _ => ?_
    conv =>
      arg 2
      simp only [j2, go_eval, ite_cont, Denom.ite_eq, ite_self]
      simp only [j3, go_eval, ite_cont, Denom.ite_eq, ite_self]
      simp only [j4, go_eval, ite_cont, Denom.ite_eq, ite_self]
      simp only [j5, go_eval, ite_cont, Denom.ite_eq, ite_self]
      simp only [j6, go_eval, ite_cont, Denom.ite_eq, ite_self]
      simp only [j7, world', newClassFromDenom_run, go_eval, Nft.updateClass, classOf_Id, denomOf_Id, hwf.hasClass_id hc]
    rw [← hwf.classKey _ _ hc]
    exact .setClass hwf _ rfl

theorem transferDenomOwner_perm (w : Nft.World) (hwf : WF w) (id s r : Bytes) (c : Nft.Class)
    (h : w.classes.get id = some c) (hown : s ≠ (metaD c).Owner) :
    ∃ e, pnftkeeper.Keeper.TransferDenomOwner id s r w = P.ok (some e, w) := by
  unfold pnftkeeper.Keeper.TransferDenomOwner
  simp only [getDenom_run w hwf, h, go_eval, eq_true (show s ≠ (denomOf c).Owner from hown)]
  exact ⟨_, rfl⟩

theorem transferDenom_refines (bech : Go.Bech32) (now : Int) (w : Nft.World) (hwf : WF w)
    (m : pnfttypes.MsgTransferDenomRequest) :
    SimP pnfttypes.ErrTransferDenom w (pnftkeeper.msgServer.TransferDenom bech (some m) w)
      (Pnft.handle (codec bech) now (abs w) (toTransferDenom m)) := by
  refine simP_validate (transferDenom_vb bech m) fun hv => ?_
  unfold Pnft.handle
  rw [hv]
  simp only [toTransferDenom, go_eval, getClass_abs]
  refine simP_keeps ?_
  unfold pnftkeeper.Keeper.TransferDenomOwner
  refine .bind (getDenom_run w hwf _) ?_
  rcases hc : w.classes.get m.Id with _ | c
  · exact .refuse
  · rw [← hwf.classKey _ _ hc]
    simp only [newClassFromDenom_run, Nft.updateClass, classOf_Id, denomOf_Id, hwf.hasClass_id hc, go_eval]
    exact .ite fun _ => .setClass hwf _ rfl

theorem classStoreKey_run (id : Bytes) : pnftkeeper.classStoreKey id = P.ok (0x01 :: id) := by
  unfold pnftkeeper.classStoreKey
  -- a buffer of `len(ClassKey)+len(id)`; `ClassKey` is copied to offset 0 (`c1`), `id` behind it (`c2`)
  have hl : Go.len Go.Nft.classKey + Go.len id = ((id.length + 1 : Nat) : Int) := by
    simp only [Go.len, Go.Nft.classKey, List.length_singleton]
    omega
  have c1 := Go.copyAt_append [] (List.replicate (id.length + 1) (default : UInt8)) Go.Nft.classKey
    (by simp [Go.Nft.classKey])
  have c2 := Go.copyAt_append Go.Nft.classKey (List.replicate id.length (default : UInt8)) id (by simp)
  simp only [List.nil_append, List.length_nil, Int.cast_ofNat_Int] at c1
  simp only [hl, Go.make_ok, P.ok_bind, P.pure_eq, c1]
  have hd : List.drop Go.Nft.classKey.length (List.replicate (id.length + 1) (default : UInt8)) =
      List.replicate id.length default := by simp [Go.Nft.classKey]
  rw [hd, show Go.len Go.Nft.classKey = (Go.Nft.classKey.length : Int) from rfl, c2]
  simp [Go.Nft.classKey]

theorem deleteDenom_refines (bech : Go.Bech32) (now : Int) (w : Nft.World) (hwf : WF w)
    (m : pnfttypes.MsgDeleteDenomRequest) :
    SimP pnfttypes.ErrDeleteDenom w (pnftkeeper.msgServer.DeleteDenom bech (some m) w)
      (Pnft.handle (codec bech) now (abs w) (toDeleteDenom m)) := by
  refine simP_validate (deleteDenom_vb bech m) fun hv => ?_
  unfold Pnft.handle
  rw [hv]
  simp only [toDeleteDenom, go_eval, getClass_abs]
  refine simP_keeps ?_
  unfold pnftkeeper.Keeper.DeleteDenom
  refine .bind (getDenom_run w hwf _) ?_
  rcases hc : w.classes.get m.Id with _ | c
  · exact .refuse
  · simp only [go_eval, Nat.pos_iff_ne_zero, classStoreKey_run]
    refine .ite fun _ => .ite fun _ => .done ?_
      ⟨Map.get_del_all hwf.classKey, Map.get_del_all hwf.classDec, hwf.nftDec⟩
    unfold abs
    simp only [Map.del_mapVals]

theorem getPNFT_run (bech : Go.Bech32) (w : Nft.World) (hwf : WF w) (d i : Bytes) :
    pnftkeeper.Keeper.GetPNFT bech d i w = P.ok (match w.nfts.get (Pnft.nftKey d i) with
      | none => (none, some "fmt:cannot found pnft. denomId: %s, pnftId: %s", w)
      | some n => (some (pnftOf bech w d i n), none, w)) := by
  unfold pnftkeeper.Keeper.GetPNFT Nft.getNFT
  rcases h : w.nfts.get (Pnft.nftKey d i) with _ | n
  · simp only [h, go_eval]
    rfl
  · simp only [h, go_eval, hwf.nftDec _ n h]
    rfl

theorem hasNFT_of_get (w : Nft.World) (d i : Bytes) (n : Nft.NFT) (h : w.nfts.get (Pnft.nftKey d i) = some n) :
    Nft.hasNFT w d i = true := Map.has_true_iff.mpr ⟨n, h⟩

theorem WF.of_classes {w w' : Nft.World} (hwf : WF w) (hc : w'.classes = w.classes)
    (hn : ∀ k n, w'.nfts.get k = some n → (Go.unmarshalE (Go.anyValue n.Data) : pnfttypes.PNFTMeta × Go.Err).2 = none) :
    WF w' :=
  ⟨hc ▸ hwf.classKey, hc ▸ hwf.classDec, hn⟩

theorem burnPNFT_perm (bech : Go.Bech32) (w : Nft.World) (hwf : WF w) (d i b : Bytes) (n : Nft.NFT)
    (h : w.nfts.get (Pnft.nftKey d i) = some n) (hown : b ≠ (pnftOf bech w d i n).Owner) :
    ∃ e, pnftkeeper.Keeper.BurnPNFT bech d i b w = P.ok (some e, w) := by
  unfold pnftkeeper.Keeper.BurnPNFT
  simp only [getPNFT_run bech w hwf, h, go_eval, eq_true hown]
  exact ⟨_, rfl⟩

theorem burn_refines (bech : Go.Bech32) (he : EncNil bech) (now : Int) (w : Nft.World) (hwf : WF w)
    (m : pnfttypes.MsgBurnPNFTRequest) :
    SimP pnfttypes.ErrBurnPNFT w (pnftkeeper.msgServer.BurnPNFT bech (some m) w)
      (Pnft.handle (codec bech) now (abs w) (toBurn m)) := by
  refine simP_validate (burn_vb bech m) fun hv => ?_
  unfold Pnft.handle
  rw [hv]
  simp only [toBurn, go_eval, getPNFT_abs bech, hasClass_abs]
  refine simP_keeps ?_
  unfold pnftkeeper.Keeper.BurnPNFT
  refine .bind (getPNFT_run bech w hwf _ _) ?_
  rcases hc : w.nfts.get (Pnft.nftKey m.DenomId m.Id) with _ | n
  · exact .refuse
  · simp only [go_eval, owner_abs bech he]
    refine .ite fun _ => ?_
    cases hcl : Nft.hasClass w m.DenomId <;> simp only [go_eval, Nft.burn, hcl, hasNFT_of_get w _ _ n hc]
    · exact .refuse
    · refine .done ?_ (hwf.of_classes rfl (Map.get_del_all hwf.nftDec))
      unfold abs
      simp only [Nft.deleteOwner, Pnft.deleteOwner, Map.del_mapVals]
      rfl

theorem codec_dec (bech : Go.Bech32) (a : Bytes) : (codec bech).dec a = bech.dec a := rfl

theorem transfer_refines (bech : Go.Bech32) (he : EncNil bech) (now : Int) (w : Nft.World) (hwf : WF w)
    (m : pnfttypes.MsgTransferPNFTRequest) :
    SimP pnfttypes.ErrTransferPNFT w (pnftkeeper.msgServer.TransferPNFT bech (some m) w)
      (Pnft.handle (codec bech) now (abs w) (toTransfer m)) := by
  refine simP_validate (transfer_vb bech m) fun hv => ?_
  unfold Pnft.handle
  rw [hv]
  simp only [toTransfer, go_eval, getPNFT_abs bech, hasClass_abs, codec_dec]
  refine simP_keeps ?_
  unfold pnftkeeper.Keeper.TransferPNFT
  refine .bind (getPNFT_run bech w hwf _ _) ?_
  rcases hc : w.nfts.get (Pnft.nftKey m.DenomId m.Id) with _ | n
  · exact .refuse
  · simp only [go_eval, owner_abs bech he]
    refine .ite fun _ => ?_
    rcases Go.acc_cases bech m.Receiver with ⟨ra, hd, hg⟩ | ⟨hd, hg⟩ <;> simp only [hg, hd, go_eval]
    · cases hcl : Nft.hasClass w m.DenomId <;> simp only [go_eval, Nft.transfer, hcl, hasNFT_of_get w _ _ n hc]
      · exact .refuse
      · exact .done rfl (hwf.of_classes rfl hwf.nftDec)
    · exact .refuse

/-- `now` of the model is the header time of the world the handler runs in -/
theorem mint_refines (bech : Go.Bech32) (w : Nft.World) (hwf : WF w) (m : pnfttypes.MsgMintPNFTRequest) :
    SimP pnfttypes.ErrMintPNFT w (pnftkeeper.msgServer.MintPNFT bech (some m) w)
      (Pnft.handle (codec bech) w.blockTimeNano (abs w) (toMint m)) := by
  refine simP_validate (mint_vb bech m) fun hv => ?_
  unfold Pnft.handle
  rw [hv]
  simp only [toMint, go_eval, getClass_abs, hasNFT_abs, codec_dec]
  refine simP_keeps ?_
  unfold pnftkeeper.Keeper.MintPNFT
  refine .bind (Go.deref_some _ _) (.bind (getDenom_run w hwf _) ?_)
  rcases hc : w.classes.get m.DenomId with _ | c
  · exact .refuse
  · -- the dereferences of `pnft` first, as definitional steps: rewritten by `simp` among the other rules they leave a
    -- proof term that is slow for the kernel to check
    dsimp only [Go.deref_bind, P.ok_bind]
    simp only [go_eval, denomOf_Id]
    refine .ite fun _ => ?_
    rcases Go.acc_cases bech m.Creator with ⟨ra, hd, hg⟩ | ⟨hd, hg⟩ <;> simp only [hg, hd, go_eval]
    · cases hn : Nft.hasNFT w c.Id m.Id <;> simp only [go_eval, Nft.mint, hwf.hasClass_id hc, toClass, hn]
      · refine .done ?_
          (hwf.of_classes rfl (Map.get_set_all hwf.nftDec (congrArg Prod.snd (unmarshalE_packed _ _))))
        unfold abs
        simp only [Nft.setOwner, Pnft.setOwner, Map.set_mapVals, toNft, metaN, unmarshalE_packed]
        rfl
      · exact .refuse
    · exact .refuse

inductive Req where
  | createDenom (m : pnfttypes.MsgCreateDenomRequest)
  | updateDenom (m : pnfttypes.MsgUpdateDenomRequest)
  | deleteDenom (m : pnfttypes.MsgDeleteDenomRequest)
  | transferDenom (m : pnfttypes.MsgTransferDenomRequest)
  | mint (m : pnfttypes.MsgMintPNFTRequest)
  | transfer (m : pnfttypes.MsgTransferPNFTRequest)
  | burn (m : pnfttypes.MsgBurnPNFTRequest)

def Req.toMsg : Req → PnftMsg
  | .createDenom m => toCreateDenom m
  | .updateDenom m => toUpdateDenom m
  | .deleteDenom m => toDeleteDenom m
  | .transferDenom m => toTransferDenom m
  | .mint m => toMint m
  | .transfer m => toTransfer m
  | .burn m => toBurn m

/-- what the SDK keeps of a handler's result: its writes on a nil error, else (also on a panic) the world before;
`Refine.Aol.accepted` without asking for a response -/
def commit {ρ : Type} (w : Nft.World) (g : P (Option ρ × Go.Err × Nft.World)) : Nft.World :=
  match g with
  | .ok (_, none, w') => w'
  | _ => w

def goStep (bech : Go.Bech32) (w : Nft.World) (op : Int × Req) : Nft.World :=
  let w0 := { w with blockTimeNano := op.1 }
  match op.2 with
  | .createDenom m => commit w0 (pnftkeeper.msgServer.CreateDenom bech (some m) w0)
  | .updateDenom m => commit w0 (pnftkeeper.msgServer.UpdateDenom bech (some m) w0)
  | .deleteDenom m => commit w0 (pnftkeeper.msgServer.DeleteDenom bech (some m) w0)
  | .transferDenom m => commit w0 (pnftkeeper.msgServer.TransferDenom bech (some m) w0)
  | .mint m => commit w0 (pnftkeeper.msgServer.MintPNFT bech (some m) w0)
  | .transfer m => commit w0 (pnftkeeper.msgServer.TransferPNFT bech (some m) w0)
  | .burn m => commit w0 (pnftkeeper.msgServer.BurnPNFT bech (some m) w0)

theorem simP_step {ρ : Type} {code : Go.Err} {w : Nft.World} (hwf : WF w) {g : P (Option ρ × Go.Err × Nft.World)}
    {c : CompKey.AddrCodec} {now : Int} {msg : PnftMsg} (h : SimP code w g (Pnft.handle c now (abs w) msg)) :
    abs (commit w g) = Pnft.step c (abs w) (now, msg) ∧ WF (commit w g) := by
  unfold Pnft.step
  generalize Pnft.handle c now (abs w) msg = o at h
  cases o with
  | ok s' =>
    obtain ⟨v, w', rfl, ha, hw⟩ := h
    exact ⟨ha, hw⟩
  | err _ =>
    obtain rfl : g = P.ok (none, Go.wrap code, w) := h
    -- `commit` matches on the error, and `Go.wrap code` is no constructor until `code` is split
    cases code
    · exact ⟨rfl, hwf⟩
    · exact ⟨rfl, hwf⟩
  | panic _ =>
    obtain ⟨s, rfl⟩ := h
    exact ⟨rfl, hwf⟩

theorem simP_accept {ρ : Type} {code : Go.Err} {w w' : Nft.World} {v : ρ}
    {g : P (Option ρ × Go.Err × Nft.World)} {o : Outcome Pnft.State} (h : SimP code w g o)
    (hg : g = P.ok (some v, none, w')) : o = .ok (abs w') ∧ WF w' := by
  subst hg
  cases o with
  | ok s' =>
    obtain ⟨v2, w2, he, rfl, hw⟩ := h
    cases he
    exact ⟨rfl, hw⟩
  | err c => cases (h : P.ok _ = P.ok _)
  | panic p =>
    obtain ⟨s, he⟩ := h
    cases he

theorem goStep_abs (bech : Go.Bech32) (he : EncNil bech) (w : Nft.World) (hwf : WF w) (op : Int × Req) :
    abs (goStep bech w op) = Pnft.step (codec bech) (abs w) (op.1, op.2.toMsg) ∧ WF (goStep bech w op) := by
  obtain ⟨t, r⟩ := op
  have hwf0 : WF { w with blockTimeNano := t } := hwf.of_classes rfl hwf.nftDec
  cases r with
  | createDenom m => exact simP_step hwf0 (createDenom_refines bech t _ hwf0 m)
  | updateDenom m => exact simP_step hwf0 (updateDenom_refines bech t _ hwf0 m)
  | deleteDenom m => exact simP_step hwf0 (deleteDenom_refines bech t _ hwf0 m)
  | transferDenom m => exact simP_step hwf0 (transferDenom_refines bech t _ hwf0 m)
  | mint m => exact simP_step hwf0 (mint_refines bech _ hwf0 m)
  | transfer m => exact simP_step hwf0 (transfer_refines bech he t _ hwf0 m)
  | burn m => exact simP_step hwf0 (burn_refines bech he t _ hwf0 m)

/-- **every history** of timed requests, from any well-formed world: the translated message server ends in a world that
stands for `Pnft.run` of the model (the run is written `ops.foldl (goStep bech) w`; no `goRun` is defined) -/
theorem goRun_abs (bech : Go.Bech32) (he : EncNil bech) (ops : List (Int × Req)) :
    ∀ (w : Nft.World), WF w →
      abs (ops.foldl (goStep bech) w) = Pnft.run (codec bech) (abs w) (ops.map fun o => (o.1, o.2.toMsg)) ∧
      WF (ops.foldl (goStep bech) w) :=
  Go.foldl_refines abs WF (goStep bech) (Pnft.step (codec bech)) (fun o => (o.1, o.2.toMsg))
    (fun w op h => goStep_abs bech he w h op) ops

theorem wf_empty : WF ({} : Nft.World) := ⟨nofun, nofun, nofun⟩

end keeper
end Panacea.Refine.Pnft
