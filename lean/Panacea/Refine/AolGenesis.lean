import Panacea.Refine.CompKeyString
import Panacea.Refine.Aol
import Panacea.Refine.Basic
import Panacea.Properties.C08
/-!
`aol.InitGenesis` ranges over the four genesis maps (entries in *some* order, `Go.GoMap`), decodes each key string and
writes the entry with the ordinary setter.  Each loop body is the pure step `putRaw`, the loops are `foldlM`s of it, and
the world they leave stands for the model's `Genesis.aolImport` of the entries, or both panic (`initGenesis_sim`).
-/
namespace Panacea.Refine.AolGenesis
open Panacea Panacea.Gen Panacea.Go Panacea.Refine.Aol Panacea.Refine.CompKeyString

section
variable [Go.Proto aoltypes.Owner] [Go.Proto aoltypes.Topic] [Go.Proto aoltypes.Writer] [Go.Proto aoltypes.Record]
variable [Go.LawfulProto aoltypes.Owner] [Go.LawfulProto aoltypes.Topic] [Go.LawfulProto aoltypes.Writer]
variable [Go.LawfulProto aoltypes.Record]
variable (bech : Go.Bech32)
set_option linter.unusedSectionVars false

theorem deref_some {α : Type} (site : String) (a : α) : Go.deref site (some a) = P.ok a := Go.deref_some site a

/-- a genesis map (`map[string]*T`) with these entries, none of them a nil pointer -/
def ent {G : Type} (l : List (Bytes × G)) : Go.GoMap (Option G) := l.map fun e => (e.1, some e.2)

def putRaw (pfx : UInt8) (kind : CompKey.Kind) (w : World) (keyStr val : Bytes) : P World :=
  match CompKey.decodeFromString (toCodec bech) kind keyStr with
  | none => P.panic "err"
  | some comps =>
    match CompKey.encode comps with
    | none => P.panic "err"
    | some k => P.ok (w.setStore "aol" ((w.store "aol").set ([pfx] ++ k) val))

theorem mustDecode_eq {κ : Type} {I : compkey.CompositeKey κ} {s : Bytes} {out res : κ} {e : Go.Err}
    (h : I.FromStrings out (CompKey.splitSlash s) = P.ok (e, res)) :
    compkey.MustDecodeFromString I s [47] out = if e.isNone then P.ok res else P.panic "err" := by
  unfold compkey.MustDecodeFromString
  simp only [decodeFromString_run, h, P.ok_bind]
  cases e <;> rfl

/-- the generic form of the four `…_step`: `kOf` is the Go key struct of a component list, `setK` the setter applied to
the value, `hs` / `hn` the accepting and the rejecting half of `FromStrings` (CompKeyString) -/
theorem step_eq {κ : Type} [Inhabited κ] (I : compkey.CompositeKey (Option κ)) (kOf : List Bytes → κ) (kind : CompKey.Kind)
    (pfx : UInt8) (keyStr v : Bytes) (w : World) (setK : κ → P World)
    (hs : ∀ comps, CompKey.fromStrings (toCodec bech) kind (CompKey.splitSlash keyStr) = some comps →
      I.FromStrings (some default) (CompKey.splitSlash keyStr) = P.ok (none, some (kOf comps)) ∧
      setK (kOf comps) = match CompKey.encode comps with
        | some k => P.ok (w.setStore "aol" ((w.store "aol").set ([pfx] ++ k) v))
        | none => P.panic "err")
    (hn : CompKey.fromStrings (toCodec bech) kind (CompKey.splitSlash keyStr) = none →
      ∃ e, I.FromStrings (some default) (CompKey.splitSlash keyStr) = P.ok (some e, some default)) :
    (do let t ← compkey.MustDecodeFromString I keyStr [47] (some default)
        let key ← Go.deref "written-back pointer" t
        setK key) = putRaw bech pfx kind w keyStr v := by
  unfold putRaw CompKey.decodeFromString
  cases h : CompKey.fromStrings (toCodec bech) kind (CompKey.splitSlash keyStr) with
  | none =>
    obtain ⟨e, he⟩ := hn h
    rw [mustDecode_eq he]
    rfl
  | some comps =>
    rw [mustDecode_eq (hs comps h).1]
    simp only [go_eval, (hs comps h).2]
    cases CompKey.encode comps <;> rfl

theorem owner_step (keyStr : Bytes) (x : aoltypes.Owner) (w : World) :
    (do let t ← compkey.MustDecodeFromString (aoltypes.OwnerCompositeKey.asCompositeKey bech) keyStr [47] (some default)
        let key ← Go.deref "written-back pointer" t
        aolkeeper.Keeper.SetOwner bech key x w) = putRaw bech 0 .owner w keyStr (Go.Proto.marshal x) :=
  step_eq bech _ ownerOf .owner 0 keyStr _ w (aolkeeper.Keeper.SetOwner bech · x w)
    (fun comps h => ⟨owner_fromStrings_some bech default _ _ h, by
      obtain ⟨a, rfl⟩ := owner_shape bech _ _ h
      exact setOwner_run bech w a x⟩)
    (owner_fromStrings_none bech default _)

theorem topic_step (keyStr : Bytes) (x : aoltypes.Topic) (w : World) :
    (do let t ← compkey.MustDecodeFromString (aoltypes.TopicCompositeKey.asCompositeKey bech) keyStr [47] (some default)
        let key ← Go.deref "written-back pointer" t
        aolkeeper.Keeper.SetTopic bech key x w) = putRaw bech 1 .topic w keyStr (Go.Proto.marshal x) :=
  step_eq bech _ topicOf .topic 1 keyStr _ w (aolkeeper.Keeper.SetTopic bech · x w)
    (fun comps h => ⟨topic_fromStrings_some bech default _ _ h, by
      obtain ⟨a, t, rfl⟩ := topic_shape bech _ _ h
      exact setTopic_run bech w a t x⟩)
    (topic_fromStrings_none bech default _)

theorem writer_step (keyStr : Bytes) (x : aoltypes.Writer) (w : World) :
    (do let t ← compkey.MustDecodeFromString (aoltypes.WriterCompositeKey.asCompositeKey bech) keyStr [47] (some default)
        let key ← Go.deref "written-back pointer" t
        aolkeeper.Keeper.SetWriter bech key x w) = putRaw bech 2 .writer w keyStr (Go.Proto.marshal x) :=
  step_eq bech _ writerOf .writer 2 keyStr _ w (aolkeeper.Keeper.SetWriter bech · x w)
    (fun comps h => ⟨writer_fromStrings_some bech default _ _ h, by
      obtain ⟨a, t, b, rfl⟩ := writer_shape bech _ _ h
      exact setWriter_run bech w a t b x⟩)
    (writer_fromStrings_none bech default _)

theorem record_step (keyStr : Bytes) (x : aoltypes.Record) (w : World) :
    (do let t ← compkey.MustDecodeFromString (aoltypes.RecordCompositeKey.asCompositeKey bech) keyStr [47] (some default)
        let key ← Go.deref "written-back pointer" t
        aolkeeper.Keeper.SetRecord bech key x w) = putRaw bech 3 .record w keyStr (Go.Proto.marshal x) :=
  step_eq bech _ recordOf .record 3 keyStr _ w (aolkeeper.Keeper.SetRecord bech · x w)
    (fun comps h => ⟨record_fromStrings_some bech default _ _ h, by
      obtain ⟨a, t, n, hn, rfl⟩ := record_shape bech _ _ h
      rw [recordOf_be64 a t (by have := hn; omega)]
      exact setRecord_run bech w a t n x⟩)
    (record_fromStrings_none bech default _)

def importRaw (lo : List (Bytes × aoltypes.Owner)) (lt : List (Bytes × aoltypes.Topic))
    (lw : List (Bytes × aoltypes.Writer)) (lr : List (Bytes × aoltypes.Record)) (w : World) : P World := do
  let w1 ← lo.foldlM (fun w e => putRaw bech 0 .owner w e.1 (Go.Proto.marshal e.2)) w
  let w2 ← lt.foldlM (fun w e => putRaw bech 1 .topic w e.1 (Go.Proto.marshal e.2)) w1
  let w3 ← lw.foldlM (fun w e => putRaw bech 2 .writer w e.1 (Go.Proto.marshal e.2)) w2
  lr.foldlM (fun w e => putRaw bech 3 .record w e.1 (Go.Proto.marshal e.2)) w3

/-- `rest` / `rest'` with `hr`, not one `rest`: applied as `refine loop_bind … fun w1 => ?_`, so that the proof goes on
inside the rest of the function -/
theorem loop_bind {G α : Type} (l : List (Bytes × G)) (body : Bytes × Option G → World → P (ForInStep World))
    (step : World → Bytes × G → P World)
    (hb : ∀ k x w, body (k, some x) w = step w (k, x) >>= fun w' => P.ok (.yield w'))
    (w : World) {rest rest' : World → P α} (hr : ∀ w', rest w' = rest' w') :
    (forIn (ent l) w body >>= rest) = (l.foldlM step w >>= rest') := by
  unfold ent
  rw [forIn_foldlM_map _ l step body (fun e _ w => hb e.1 e.2 w), funext hr]

theorem initGenesis_run (lo : List (Bytes × aoltypes.Owner)) (lt : List (Bytes × aoltypes.Topic))
    (lw : List (Bytes × aoltypes.Writer)) (lr : List (Bytes × aoltypes.Record)) (w : World) :
    aol.InitGenesis bech { Owners := ent lo, Topics := ent lt, Writers := ent lw, Records := ent lr } w =
      importRaw bech lo lt lw lr w := by
  unfold aol.InitGenesis importRaw
  refine loop_bind lo _ (fun w e => putRaw bech 0 .owner w e.1 (Go.Proto.marshal e.2)) ?_ w fun w1 => ?_
  · intro k x w
    simp only [go_eval, ← owner_step, bind_assoc]
  refine loop_bind lt _ (fun w e => putRaw bech 1 .topic w e.1 (Go.Proto.marshal e.2)) ?_ w1 fun w2 => ?_
  · intro k x w
    simp only [go_eval, ← topic_step, bind_assoc]
  refine loop_bind lw _ (fun w e => putRaw bech 2 .writer w e.1 (Go.Proto.marshal e.2)) ?_ w2 fun w3 => ?_
  · intro k x w
    simp only [go_eval, ← writer_step, bind_assoc]
  refine (loop_bind lr _ (fun w e => putRaw bech 3 .record w e.1 (Go.Proto.marshal e.2)) ?_ w3
    (rest' := pure) fun _ => rfl).trans (bind_pure _)
  intro k x w
  simp only [go_eval, ← record_step, bind_assoc]

theorem importStep_err {V} (c : CompKey.AddrCodec) (k : CompKey.Kind) (x : String) (l : List (Bytes × V)) :
    l.foldl (Genesis.importStep c k) (.err x) = .err x := by
  induction l with
  | nil => rfl
  | cons e l ih => simpa [List.foldl_cons, Genesis.importStep] using ih

theorem putRaw_eq (pfx : UInt8) (kind : CompKey.Kind) (w : World) (s v : Bytes) :
    putRaw bech pfx kind w s v = match (CompKey.decodeFromString (toCodec bech) kind s).bind CompKey.encode with
      | some key => P.ok (w.setStore "aol" ((w.store "aol").set ([pfx] ++ key) v))
      | none => P.panic "err" := by
  unfold putRaw
  cases CompKey.decodeFromString (toCodec bech) kind s with
  | none => rfl
  | some comps =>
    simp only [Option.bind_some]
    cases CompKey.encode comps <;> rfl

/-- `getT` / `setT`: the table's place in `Aol.State` -/
theorem fold_table {G V : Type} [Go.Proto G] (conv : G → V) (pfx : UInt8) (kind : CompKey.Kind)
    (getT : Aol.State → Map V) (setT : Aol.State → Map V → Aol.State)
    (h1 : ∀ s, setT s (getT s) = s) (h2 : ∀ s t, getT (setT s t) = t) (h3 : ∀ s t t', setT (setT s t) t' = setT s t')
    (habs : ∀ (m : Map Bytes), m.Sorted → ∀ (k : Bytes) (x : G),
      absMap (m.set ([pfx] ++ k) (Go.Proto.marshal x)) = setT (absMap m) ((getT (absMap m)).set k (conv x)))
    (hwf : ∀ (m : Map Bytes), WFMap m → ∀ (k : Bytes) (x : G), WFMap (m.set ([pfx] ++ k) (Go.Proto.marshal x)))
    (l : List (Bytes × G)) : ∀ (w : World), WF w → ∀ m',
      (l.map fun e => (e.1, conv e.2)).foldl (Genesis.importStep (toCodec bech) kind) (.ok (getT (abs w))) = .ok m' →
      ∃ w', l.foldlM (fun w e => putRaw bech pfx kind w e.1 (Go.Proto.marshal e.2)) w = P.ok w' ∧ WF w' ∧
        abs w' = setT (abs w) m' := by
  induction l with
  | nil =>
    intro w hwf0 m' h
    cases h
    exact ⟨w, rfl, hwf0, (h1 _).symm⟩
  | cons e l ih =>
    intro w hwf0 m' h
    rw [List.map_cons, List.foldl_cons] at h
    rw [List.foldlM_cons]
    cases hk : (CompKey.decodeFromString (toCodec bech) kind e.1).bind CompKey.encode with
    | none =>
      obtain ⟨p, hp⟩ := Genesis.importStep_none (toCodec bech) kind (getT (abs w)) (e.1, conv e.2) hk
      rw [hp, Genesis.importFold_panic] at h
      cases h
    | some key =>
      have hwf1 : WF (w.setStore "aol" ((w.store "aol").set ([pfx] ++ key) (Go.Proto.marshal e.2))) :=
        (wf_setStore _ _).mpr (hwf _ hwf0 _ _)
      have habs1 : abs (w.setStore "aol" ((w.store "aol").set ([pfx] ++ key) (Go.Proto.marshal e.2))) =
          setT (abs w) ((getT (abs w)).set key (conv e.2)) :=
        (abs_setStore _ _).trans (habs _ hwf0.sorted _ _)
      rw [Genesis.importStep_some (toCodec bech) kind _ (e.1, conv e.2) hk, ← h2 (abs w) (Map.set _ key _), ← habs1] at h
      obtain ⟨w', hr, hwf', habs'⟩ := ih _ hwf1 m' h
      rw [putRaw_eq, hk]
      exact ⟨w', hr, hwf', by rw [habs', habs1, h3]⟩

/-- Whether an import panics is decided by the key strings alone (an undecodable one, a component too long for a store
key): no hypothesis on the world or the table. -/
theorem fold_panic {G V : Type} [Go.Proto G] (conv : G → V) (pfx : UInt8) (kind : CompKey.Kind) (l : List (Bytes × G)) :
    ∀ (w : World) (t : Map V) p,
      (l.map fun e => (e.1, conv e.2)).foldl (Genesis.importStep (toCodec bech) kind) (.ok t) = .panic p →
      ∃ s, l.foldlM (fun w e => putRaw bech pfx kind w e.1 (Go.Proto.marshal e.2)) w = P.panic s := by
  induction l with
  | nil =>
    intro w t p h
    cases h
  | cons e l ih =>
    intro w t p h
    rw [List.map_cons, List.foldl_cons] at h
    rw [List.foldlM_cons]
    cases hk : (CompKey.decodeFromString (toCodec bech) kind e.1).bind CompKey.encode with
    | none =>
      rw [putRaw_eq, hk]
      exact ⟨_, rfl⟩
    | some key =>
      rw [Genesis.importStep_some (toCodec bech) kind _ (e.1, conv e.2) hk] at h
      rw [putRaw_eq, hk]
      exact ih _ _ p h

theorem fold_table_panic {G V : Type} [Go.Proto G] (conv : G → V) (pfx : UInt8) (kind : CompKey.Kind)
    (getT : Aol.State → Map V) (setT : Aol.State → Map V → Aol.State)
    (h2 : ∀ s t, getT (setT s t) = t)
    (habs : ∀ (m : Map Bytes), m.Sorted → ∀ (k : Bytes) (x : G),
      absMap (m.set ([pfx] ++ k) (Go.Proto.marshal x)) = setT (absMap m) ((getT (absMap m)).set k (conv x)))
    (hwf : ∀ (m : Map Bytes), WFMap m → ∀ (k : Bytes) (x : G), WFMap (m.set ([pfx] ++ k) (Go.Proto.marshal x)))
    (l : List (Bytes × G)) : ∀ (w : World), WF w → ∀ p,
      (l.map fun e => (e.1, conv e.2)).foldl (Genesis.importStep (toCodec bech) kind) (.ok (getT (abs w))) = .panic p →
      ∃ s, l.foldlM (fun w e => putRaw bech pfx kind w e.1 (Go.Proto.marshal e.2)) w = P.panic s :=
  fun w _ p h => fold_panic bech conv pfx kind l w _ p h

def toG (lo : List (Bytes × aoltypes.Owner)) (lt : List (Bytes × aoltypes.Topic))
    (lw : List (Bytes × aoltypes.Writer)) (lr : List (Bytes × aoltypes.Record)) : Genesis.AolGenesis :=
  { owners := lo.map fun e => (e.1, toOwner e.2), topics := lt.map fun e => (e.1, toTopic e.2),
    writers := lw.map fun e => (e.1, toWriter e.2), records := lr.map fun e => (e.1, toRecord e.2) }

theorem abs_empty : abs ({} : World) = { owners := [], topics := [], writers := [], records := [] } := rfl

theorem wf_empty : WF ({} : World) := Aol.wf_empty

/-- the model's import never answers `.err`: that case is left open -/
def ISim {α : Type} (post : World → α → Prop) (g : P World) (m : Outcome α) : Prop :=
  match m with
  | .ok a => ∃ w', g = P.ok w' ∧ WF w' ∧ post w' a
  | .panic _ => ∃ s, g = P.panic s
  | .err _ => True

theorem ISim.bind {α β : Type} {post : World → α → Prop} {post' : World → β → Prop} {m : Outcome α} {g : P World}
    {M : α → Outcome β} {G : World → P World} (h : ISim post g m)
    (hr : ∀ a w', WF w' → post w' a → ISim post' (G w') (M a)) : ISim post' (g >>= G) (m >>= M) := by
  cases m with
  | ok a =>
    obtain ⟨w', rfl, hw, hp⟩ := h
    exact hr a w' hw hp
  | panic p =>
    obtain ⟨s, rfl⟩ := h
    exact ⟨s, rfl⟩
  | err c => trivial

theorem table_sim {G V : Type} [Go.Proto G] (conv : G → V) (pfx : UInt8) (kind : CompKey.Kind)
    (getT : Aol.State → Map V) (setT : Aol.State → Map V → Aol.State)
    (h1 : ∀ s, setT s (getT s) = s) (h2 : ∀ s t, getT (setT s t) = t) (h3 : ∀ s t t', setT (setT s t) t' = setT s t')
    (habs : ∀ (m : Map Bytes), m.Sorted → ∀ (k : Bytes) (x : G),
      absMap (m.set ([pfx] ++ k) (Go.Proto.marshal x)) = setT (absMap m) ((getT (absMap m)).set k (conv x)))
    (hwf : ∀ (m : Map Bytes), WFMap m → ∀ (k : Bytes) (x : G), WFMap (m.set ([pfx] ++ k) (Go.Proto.marshal x)))
    (l : List (Bytes × G)) (w : World) (hw : WF w) (t : Map V) (ht : getT (abs w) = t) :
    ISim (fun w' m' => abs w' = setT (abs w) m')
      (l.foldlM (fun w e => putRaw bech pfx kind w e.1 (Go.Proto.marshal e.2)) w)
      ((l.map fun e => (e.1, conv e.2)).foldl (Genesis.importStep (toCodec bech) kind) (.ok t)) := by
  subst ht
  unfold ISim
  split
  · next m' h => exact fold_table bech conv pfx kind getT setT h1 h2 h3 habs hwf l w hw m' h
  · next p h => exact fold_table_panic bech conv pfx kind getT setT h2 habs hwf l w hw p h
  · trivial

/-- **AOL genesis import on the translated code**, for any order of the four maps and any world whose AOL store is empty
(the other modules' stores may be filled already, as on the chain). -/
theorem initGenesis_sim (lo : List (Bytes × aoltypes.Owner)) (lt : List (Bytes × aoltypes.Topic))
    (lw : List (Bytes × aoltypes.Writer)) (lr : List (Bytes × aoltypes.Record))
    (w0 : World) (hw0 : WF w0) (h0 : abs w0 = {}) :
    ISim (fun w' s => abs w' = s)
      (aol.InitGenesis bech { Owners := ent lo, Topics := ent lt, Writers := ent lw, Records := ent lr } w0)
      (Genesis.aolImport (toCodec bech) (toG lo lt lw lr)) := by
  rw [initGenesis_run, ← bind_pure (importRaw ..)]
  unfold Genesis.aolImport Genesis.importTable toG importRaw
  simp only [bind_assoc]
  refine (table_sim bech toOwner 0 .owner (·.owners) (fun s t => { s with owners := t }) (fun _ => rfl)
    (fun _ _ => rfl) (fun _ _ _ => rfl) absMap_set_owner wf_set_owner lo w0 hw0 [] (by rw [h0])).bind fun mo w1 f1 a1 => ?_
  refine (table_sim bech toTopic 1 .topic (·.topics) (fun s t => { s with topics := t }) (fun _ => rfl)
    (fun _ _ => rfl) (fun _ _ _ => rfl) absMap_set_topic wf_set_topic lt w1 f1 [] (by rw [a1, h0])).bind
    fun mt w2 f2 a2 => ?_
  refine (table_sim bech toWriter 2 .writer (·.writers) (fun s t => { s with writers := t }) (fun _ => rfl)
    (fun _ _ => rfl) (fun _ _ _ => rfl) absMap_set_writer wf_set_writer lw w2 f2 [] (by rw [a2, a1, h0])).bind
    fun mw w3 f3 a3 => ?_
  refine (table_sim bech toRecord 3 .record (·.records) (fun s t => { s with records := t }) (fun _ => rfl)
    (fun _ _ => rfl) (fun _ _ _ => rfl) absMap_set_record wf_set_record lr w3 f3 [] (by rw [a3, a2, a1, h0])).bind
    fun mr w4 f4 a4 => ?_
  exact ⟨w4, rfl, f4, (a4.trans (by rw [a3, a2, a1, h0]) : abs w4 = _)⟩

/-- `initGenesis_sim` read at `.ok s`: if the model imports the entries to `s`, `InitGenesis` on the empty store succeeds,
and the world is well-formed and stands for `s`. -/
theorem initGenesis_refines (lo : List (Bytes × aoltypes.Owner)) (lt : List (Bytes × aoltypes.Topic))
    (lw : List (Bytes × aoltypes.Writer)) (lr : List (Bytes × aoltypes.Record)) (s : Aol.State)
    (h : Genesis.aolImport (toCodec bech) (toG lo lt lw lr) = .ok s) :
    ∃ w', aol.InitGenesis bech { Owners := ent lo, Topics := ent lt, Writers := ent lw, Records := ent lr } ({} : World) = P.ok w' ∧
      WF w' ∧ abs w' = s := by
  have := initGenesis_sim bech lo lt lw lr {} wf_empty rfl
  rw [h] at this
  exact this

/-- A genesis the model refuses to import (it panics, as `MustDecodeFromString` / `MustEncode` do) makes the
translated `InitGenesis` panic too: the chain does not start. -/
theorem initGenesis_panics (lo : List (Bytes × aoltypes.Owner)) (lt : List (Bytes × aoltypes.Topic))
    (lw : List (Bytes × aoltypes.Writer)) (lr : List (Bytes × aoltypes.Record)) (p : String)
    (h : Genesis.aolImport (toCodec bech) (toG lo lt lw lr) = .panic p) :
    ∃ s, aol.InitGenesis bech { Owners := ent lo, Topics := ent lt, Writers := ent lw, Records := ent lr } ({} : World) = P.panic s := by
  have := initGenesis_sim bech lo lt lw lr {} wf_empty rfl
  rw [h] at this
  exact this

/-- **C08 for x/aol, import half on the translated code**: a genesis state that carries the model's export of a state with
sorted tables and admitted keys (in whatever map order) imports to a world that stands for exactly that state. -/
theorem initGenesis_of_export (hc : (toCodec bech).Lawful) (s : Aol.State)
    (hso : Map.Sorted s.owners) (hst : Map.Sorted s.topics) (hsw : Map.Sorted s.writers) (hsr : Map.Sorted s.records)
    (hko : C08.KeysAdmitted .owner s.owners) (hkt : C08.KeysAdmitted .topic s.topics)
    (hkw : C08.KeysAdmitted .writer s.writers) (hkr : C08.KeysAdmitted .record s.records)
    (lo : List (Bytes × aoltypes.Owner)) (lt : List (Bytes × aoltypes.Topic))
    (lw : List (Bytes × aoltypes.Writer)) (lr : List (Bytes × aoltypes.Record))
    (hg : Genesis.aolExport (toCodec bech) s = .ok (toG lo lt lw lr)) :
    ∃ w', aol.InitGenesis bech { Owners := ent lo, Topics := ent lt, Writers := ent lw, Records := ent lr } ({} : World) = P.ok w' ∧
      WF w' ∧ abs w' = s := by
  obtain ⟨g, he, hi⟩ := C08.aol_import_export (toCodec bech) hc s hso hst hsw hsr hko hkt hkw hkr
  rw [hg] at he
  cases he
  exact initGenesis_refines bech lo lt lw lr s hi

end
end Panacea.Refine.AolGenesis